import Ampy.Gen.SrcOkta2code
import Ampy.GenEq.Basic
/-!
Source tie for `wmo.okta2code` on Python `int` arguments (refusal texts are not compared).  The `isinstance(val, int)`
refusal is decided by the declared parameter type in the translation: the behavioural C18 check covers it, not this.
-/
namespace Ampy.GenEq
open Ampy Ampy.Py

theorem okta2code_eq (n : Int) : sameOutcome (Gen.okta2code n) (okta2codeInt n) := by
  unfold Gen.okta2code okta2codeInt
  by_cases h0 : n = 0
  · subst h0; simp [sameOutcome, elemInt]
  by_cases h1 : n = 1; · subst h1; simp [sameOutcome, elemInt]
  by_cases h2 : n = 2; · subst h2; simp [sameOutcome, elemInt]
  by_cases h3 : n = 3; · subst h3; simp [sameOutcome, elemInt]
  by_cases h4 : n = 4; · subst h4; simp [sameOutcome, elemInt]
  by_cases h5 : n = 5; · subst h5; simp [sameOutcome, elemInt]
  by_cases h6 : n = 6; · subst h6; simp [sameOutcome, elemInt]
  by_cases h7 : n = 7; · subst h7; simp [sameOutcome, elemInt]
  by_cases h8 : n = 8; · subst h8; simp [sameOutcome, elemInt]
  by_cases h9 : n = 9; · subst h9; simp [sameOutcome, elemInt]
  simp [sameOutcome, elemInt, h0, h1, h2, h3, h4, h5, h6, h7, h8, h9]

end Ampy.GenEq
