import Ampy.Gen.SrcHeight2code
import Ampy.GenEq.Basic
/-!
Source tie for `wmo.height2code`, on every exact rational height and on NaN (binary64 rounding of `val/100` is outside
both sides).
-/
namespace Ampy.GenEq
open Ampy Ampy.Py

theorem height2code_eq (v : Option Rat) : Gen.height2code v = .ok (height2code v) := by
  cases v with
  | none => rfl
  | some h =>
    unfold Gen.height2code height2code heightHundreds
    have e : ((h / ((1000 : Int) : Rat)).floor : Rat) * ((10 : Int) : Rat) = (((h / 1000).floor * 10 : Int) : Rat) := by
      simp [Rat.intCast_mul]
    by_cases hle : h ≤ 10000
    · have hle' : h ≤ ((10000 : Int) : Rat) := by simpa using hle
      simp [hle, hle']
    · have hle' : ¬ h ≤ ((10000 : Int) : Rat) := by simpa using hle
      simp only [ofInt_eq, isnan_some, le_some, div_some, floor_some, mul_some, e, toInt_intCast, bind_ok,
        hle, hle', decide_false, Bool.false_eq_true, if_false]

end Ampy.GenEq
