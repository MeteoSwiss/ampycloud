import Ampy.Gen.SrcBestGmm
import Ampy.GenEq.Basic
import Ampy.Model.Pipeline
/-!
Source tie for `layer.best_gmm` in mode `delta` (the default): it returns the model's `bestDelta` for every score list
and gain.  `scores2nrl`, used by mode `prob` only, is a parameter; the loop is a fold in the exception monad because it
indexes the score list and can raise.
-/
namespace Ampy.GenEq
open Ampy Ampy.Py

def deltaStep (abics : List Rat) (g : Rat) (best m : Nat) : Nat :=
  match abics[m + 1]?, abics[best]? with
  | some a, some b => if a < g * b then m + 1 else best
  | _, _ => best

theorem bestDelta_eq_fold (abics : List Rat) (g : Rat) :
    bestDelta abics g = (List.range (abics.length - 1)).foldl (deltaStep abics g) 0 := rfl

theorem deltaStep_lt (abics : List Rat) (g : Rat) (best m : Nat) (hb : best < abics.length) (hm : m + 1 < abics.length) :
    deltaStep abics g best m < abics.length := by
  unfold deltaStep
  split
  · split <;> assumption
  · exact hb

theorem best_gmm_delta_eq (f : List Rat → List Rat) (abics : List Rat) (p g : Rat) :
    Gen.best_gmm f abics "delta" p g = .ok ((bestDelta abics g : Nat) : Int) := by
  unfold Gen.best_gmm
  have h1 : decide (("delta" : String) = "prob") = false := by decide
  simp only [h1, Bool.false_eq_true, if_false]
  rw [pyRange_len_sub_one, bestDelta_eq_fold]
  rw [show ∀ x : Except AmpyErr Int, Except.bind x (fun st => Except.ok st) = x from fun x => by cases x <;> rfl]
  -- the running best index stays in range (with fewer than two scores the loop does not run)
  refine foldlM_map_eq_foldl (fun k : Nat => (k : Int)) _ _ _ (I := fun bn => bn < abics.length ∨ abics.length ≤ 1) _ ?_ 0
    (by omega)
  intro bn hbn m hm
  have hm : m + 1 < abics.length := by have := List.mem_range.mp hm; omega
  have hb : bn < abics.length := by omega
  have e1 : ((m : Nat) : Int) + 1 = (((m + 1 : Nat)) : Int) := by omega
  obtain ⟨a, ha⟩ : ∃ a, abics[m + 1]? = some a := ⟨abics[m + 1], List.getElem?_eq_getElem hm⟩
  obtain ⟨b, hbv⟩ : ∃ b, abics[bn]? = some b := ⟨abics[bn], List.getElem?_eq_getElem hb⟩
  refine ⟨?_, Or.inl (deltaStep_lt abics g bn m hb hm)⟩
  simp only [e1, getIdx_nat, ha, hbv, Except.bind, deltaStep]
  by_cases hc : a < g * b <;> simp [hc]

/-- With fewer than two scores the loop does not run and model 0 is returned whatever the mode, as in the code. -/
theorem best_gmm_badmode (f : List Rat → List Rat) (abics : List Rat) (mode : String) (p g : Rat)
    (h1 : mode ≠ "prob") (h2 : mode ≠ "delta") (hl : 2 ≤ abics.length) :
    Gen.best_gmm f abics mode p g = .error (.ampy "") := by
  simp only [Gen.best_gmm]
  rw [foldlM_error _ (.ampy "") (by intro s x; simp [h1, h2])]
  · rfl
  · rw [pyRange_len_sub_one]
    intro h
    have := congrArg List.length h
    simp at this
    omega

end Ampy.GenEq
