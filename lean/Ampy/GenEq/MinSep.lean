import Ampy.Gen.SrcGetMinSepForHeight
import Ampy.GenEq.Basic
import Ampy.Model.Pipeline
/-!
Source tie for `CeiloChunk._get_min_sep_for_height` (`MIN_SEP_LIMS`, `MIN_SEP_VALS` as parameters), including the refusal
when the lengths do not fit and the `IndexError` that cannot occur when they do.
-/
namespace Ampy.GenEq
open Ampy Ampy.Py

theorem get_min_sep_for_height_eq {α} (P : Prms α) (h : Rat) :
    sameOutcome (Gen.get_min_sep_for_height P.minSepLims P.minSepVals h) (minSepFor P h) := by
  unfold Gen.get_min_sep_for_height minSepFor
  by_cases hl : P.minSepLims.length + 1 ≠ P.minSepVals.length
  · have : decide (len P.minSepLims ≠ len P.minSepVals - (1 : Int)) = true := by
      apply decide_eq_true; simp only [len]; omega
    rw [if_pos hl]
    simp only [this, if_true, sameOutcome]
  · have : decide (len P.minSepLims ≠ len P.minSepVals - (1 : Int)) = false := by
      apply decide_eq_false; simp only [len]; omega
    rw [if_neg hl]
    simp only [this, if_false, Bool.false_eq_true, searchsortedLeft, getIdx_nat]
    cases P.minSepVals[(P.minSepLims.filter (· < h)).length]? <;> simp [sameOutcome, Except.bind]

end Ampy.GenEq
