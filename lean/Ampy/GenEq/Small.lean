import Ampy.Gen.SrcMinrange2minmax
import Ampy.Gen.SrcNcdOrNsc
import Ampy.Model.Scaler
import Ampy.Model.Metar
/-!
Source ties for `scaler.minrange2minmax` (`np.nanmax` / `np.nanmin` instantiated by the model's) and
`CeiloChunk._ncd_or_nsc` (the high-cloud flag as a parameter): each is one `if` on the model's own condition.
-/
namespace Ampy.GenEq
open Ampy Ampy.Py

theorem minrange2minmax_eq (vals : List (Option Rat)) (mr : Rat) :
    Gen.minrange2minmax nanmax nanmin vals mr = minrange2minmax vals mr := by
  unfold Gen.minrange2minmax minrange2minmax
  by_cases h : nanmax vals - nanmin vals ≥ mr
  · simp [h]
  · simp [h]

theorem ncd_or_nsc_eq (flag : Bool) : Gen.ncd_or_nsc flag = ncdOrNsc flag := by
  cases flag <;> rfl

end Ampy.GenEq
