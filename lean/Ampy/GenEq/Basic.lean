import Ampy.Gen.Prelude
/-!
What each operation of `Ampy/Gen/Prelude.lean` does on the arguments the translated sources hand it, as rewriting
lemmas: the source ties split on the model's conditions and let `simp` compute the generated term with these.
`sameOutcome` is the relation in which the ties of functions that can refuse are stated.
-/
namespace Ampy.GenEq
open Ampy Ampy.Py

@[simp] theorem ofInt_eq (n : Int) : F.ofInt n = some (n : Rat) := rfl
@[simp] theorem ofRat_eq (r : Rat) : F.ofRat r = some r := rfl
@[simp] theorem isnan_some (r : Rat) : F.isnan (some r) = false := rfl
@[simp] theorem isnan_none : F.isnan none = true := rfl
@[simp] theorem le_some (a b : Rat) : F.le (some a) (some b) = decide (a ≤ b) := rfl
@[simp] theorem lt_some (a b : Rat) : F.lt (some a) (some b) = decide (a < b) := rfl
@[simp] theorem ge_some (a b : Rat) : F.ge (some a) (some b) = decide (b ≤ a) := rfl
@[simp] theorem gt_some (a b : Rat) : F.gt (some a) (some b) = decide (b < a) := rfl
@[simp] theorem eq_some (a b : Rat) : F.eq (some a) (some b) = decide (a = b) := rfl
@[simp] theorem le_none_l (b : PyFloat) : F.le none b = false := rfl
@[simp] theorem ge_none_l (b : PyFloat) : F.ge none b = false := by cases b <;> rfl
@[simp] theorem add_some (a b : Rat) : F.add (some a) (some b) = some (a + b) := rfl
@[simp] theorem sub_some (a b : Rat) : F.sub (some a) (some b) = some (a - b) := rfl
@[simp] theorem mul_some (a b : Rat) : F.mul (some a) (some b) = some (a * b) := rfl
@[simp] theorem div_some (a b : Rat) : F.div (some a) (some b) = some (a / b) := rfl
@[simp] theorem neg_some (a : Rat) : F.neg (some a) = some (-a) := rfl
@[simp] theorem floor_some (a : Rat) : F.floor (some a) = some ((a.floor : Int) : Rat) := rfl
@[simp] theorem ceil_some (a : Rat) : F.ceil (some a) = some ((a.ceil : Int) : Rat) := rfl
@[simp] theorem round_some (a : Rat) : F.round (some a) = some ((F.roundHalfEven' a : Int) : Rat) := rfl

@[simp] theorem divz_some (a b : Rat) (hb : b ≠ 0) : F.divz (some a) (some b) = some (a / b) := by
  simp [F.divz, hb]
@[simp] theorem divz_none (b : PyFloat) : F.divz none b = none := by cases b <;> rfl
@[simp] theorem sub_none (b : PyFloat) : F.sub none b = none := by cases b <;> rfl
@[simp] theorem mul_none (b : PyFloat) : F.mul none b = none := by cases b <;> rfl
@[simp] theorem add_none (b : PyFloat) : F.add none b = none := by cases b <;> rfl

@[simp] theorem toInt_intCast (z : Int) : F.toInt (some (z : Rat)) = .ok z := by
  show Except.ok (if (0 : Rat) ≤ (z : Rat) then ((z : Rat)).floor else ((z : Rat)).ceil) = Except.ok z
  split <;> simp [Rat.floor_intCast, Rat.ceil_intCast]

@[simp] theorem bind_ok {α β} (a : α) (f : α → Except AmpyErr β) : Except.bind (Except.ok a) f = f a := rfl

theorem getIdx_nat {α} (l : List α) (k : Nat) :
    getIdx l ((k : Nat) : Int) = match l[k]? with | some v => .ok v | none => .error (.other "IndexError") := by
  unfold getIdx
  have h1 : ¬ (((k : Nat) : Int) < 0) := by omega
  simp only [h1, if_false]
  have h2 : (0 : Int) ≤ ((k : Nat) : Int) := by omega
  simp only [h2, if_true, Int.toNat_natCast]
  rfl

theorem truncRat_of_nonneg {r : Rat} (h : 0 ≤ r) : truncRat r = r.floor := if_pos h

/-- Python's `l[-k:]` for `k ≥ 0`: everything when `k = 0` (`-0 == 0`), the last `k` elements otherwise. -/
theorem sliceFrom_neg {α} (l : List α) {k : Int} (hk : 0 ≤ k) :
    sliceFrom l (-k) = if k.toNat = 0 then l else l.drop (l.length - k.toNat) := by
  unfold sliceFrom
  by_cases h0 : k = 0
  · subst h0; rfl
  · rw [if_neg (by omega), if_neg (by omega), Int.neg_neg]

/-- `range(len(l) - 1)`, also for the empty list (`range(-1)` is empty). -/
theorem pyRange_len_sub_one {α} (l : List α) :
    pyRange (len l - 1) = (List.range (l.length - 1)).map fun k => ((k : Nat) : Int) := by
  unfold pyRange len
  congr 2
  omega

theorem foldlM_error {σ β} (f : σ → β → Except AmpyErr σ) (e : AmpyErr) (hf : ∀ s x, f s x = .error e)
    (s : σ) {l : List β} (hl : l ≠ []) : List.foldlM f s l = .error e := by
  cases l with
  | nil => exact absurd rfl hl
  | cons x xs => rw [List.foldlM_cons, hf]; rfl

/-- A loop in the exception monad computes the pure fold `f` (read through `c`, `d`) when its body returns what `f`
does on the states of an invariant that `f` keeps. -/
theorem foldlM_map_eq_foldl {σ τ β γ} (c : τ → σ) (d : γ → β) (F : σ → β → Except AmpyErr σ) (f : τ → γ → τ)
    (I : τ → Prop) (l : List γ) (hF : ∀ t, I t → ∀ x ∈ l, F (c t) (d x) = .ok (c (f t x)) ∧ I (f t x)) :
    ∀ t, I t → List.foldlM F (c t) (l.map d) = .ok (c (l.foldl f t)) := by
  induction l with
  | nil => intro t _; rfl
  | cons x l ih =>
    intro t ht
    obtain ⟨e, ht'⟩ := hF t ht x List.mem_cons_self
    rw [List.map_cons, List.foldlM_cons, e]
    exact ih (fun t ht y hy => hF t ht y (List.mem_cons_of_mem _ hy)) _ ht'

/-- Outcomes compared up to the text of an `AmpycloudError`. -/
def sameOutcome {α} [DecidableEq α] : Except AmpyErr α → Except AmpyErr α → Prop
  | .ok a, .ok b => a = b
  | .error (.ampy _), .error (.ampy _) => True
  | .error (.other a), .error (.other b) => a = b
  | _, _ => False

theorem sameOutcome_ok {α} [DecidableEq α] {x : Except AmpyErr α} {b : α} (h : sameOutcome x (.ok b)) : x = .ok b := by
  match x, h with
  | .ok a, h => exact congrArg _ h

theorem sameOutcome_ampy {α} [DecidableEq α] {x : Except AmpyErr α} {e : String}
    (h : sameOutcome x (.error (.ampy e))) : ∃ e', x = .error (.ampy e') := by
  match x, h with
  | .error (.ampy e'), _ => exact ⟨e', rfl⟩

end Ampy.GenEq
