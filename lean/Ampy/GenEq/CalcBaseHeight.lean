import Ampy.Gen.SrcCalcBaseHeight
import Ampy.GenEq.Basic
import Ampy.Model.Metar
import Mathlib.Algebra.Order.Field.Rat
/-!
Source tie for `utils.calc_base_height` (`np.percentile` is a parameter of both sides), for a look-back percentage `≥ 0`:
with a negative one Python slices from the front, the model keeps everything.
-/
namespace Ampy.GenEq
open Ampy Ampy.Py

theorem calc_base_height_eq (pctl : List Rat → Rat → Rat) (vals : List Rat) (lb q : Rat) (h : 0 ≤ lb) :
    sameOutcome (Gen.calc_base_height pctl vals lb q) (calcBase pctl vals lb q) := by
  have hx : (0 : Rat) ≤ ((len vals : Int) : Rat) * lb / ((100 : Int) : Rat) :=
    Rat.div_nonneg (Rat.mul_nonneg (Rat.intCast_nonneg.mpr (Int.natCast_nonneg _)) h) (by decide)
  have hs : sliceFrom vals (-(truncRat (((len vals : Int) : Rat) * lb / ((100 : Int) : Rat)))) = latest vals lb := by
    rw [truncRat_of_nonneg hx, sliceFrom_neg _ (Rat.le_floor_iff.mpr hx)]
    rfl
  unfold Gen.calc_base_height calcBase
  simp only [hs]
  by_cases h0 : (latest vals lb).length = 0
  · have : decide (len (latest vals lb) = (0 : Int)) = true := by simp [len, h0]
    simp [this, h0, sameOutcome]
  · have : decide (len (latest vals lb) = (0 : Int)) = false := by
      apply decide_eq_false; simp only [len]; omega
    simp [this, h0, sameOutcome]

end Ampy.GenEq
