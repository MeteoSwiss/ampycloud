import Ampy.Gen.SrcPerc2okta
import Ampy.GenEq.Basic
import Ampy.Lemmas.Wmo
/-!
Source tie for `wmo.perc2okta` (the array code read element-wise) on every exact rational percentage and NaN, and the
equality of the prelude's independent `roundHalfEven'` with the model's rounding.
-/
namespace Ampy.GenEq
open Ampy Ampy.Py

theorem frac_lt_half_iff {x f : Rat} : x - f < 1/2 ↔ x + 1/2 < f + 1 := by
  rw [sub_lt_iff_lt_add', ← lt_sub_iff_add_lt, show f + 1 - 1/2 = f + 1/2 by rw [add_sub_assoc]; norm_num]

theorem half_lt_frac_iff {x f : Rat} : x - f > 1/2 ↔ f + 1 < x + 1/2 := by
  rw [gt_iff_lt, lt_sub_iff_add_lt', ← sub_lt_iff_lt_add, show f + 1 - 1/2 = f + 1/2 by rw [add_sub_assoc]; norm_num]

theorem rhe'_eq (x : Rat) : F.roundHalfEven' x = roundHalfEven x := by
  have h1 : (x.floor : Rat) ≤ x := Rat.floor_le x
  have h2 : x < (x.floor : Rat) + 1 := by have := Rat.lt_floor_add_one x; rwa [Int.cast_add, Int.cast_one] at this
  unfold F.roundHalfEven' roundHalfEven
  simp only
  by_cases hd : x - (x.floor : Rat) < 1/2
  · -- below the half: ⌊x + 1/2⌋ = ⌊x⌋ and it is not a tie
    have lo : (x.floor : Rat) < x + 1/2 := h1.trans_lt (lt_add_of_pos_right x (by norm_num))
    have ht : (x + 1/2).floor = x.floor := floor_eq_of lo.le (frac_lt_half_iff.mp hd)
    rw [if_pos hd, ht, if_neg fun h => lo.ne h.1]
  · have lo : (x.floor : Rat) + 1 ≤ x + 1/2 := not_lt.mp (mt frac_lt_half_iff.mpr hd)
    have ht : (x + 1/2).floor = x.floor + 1 :=
      floor_eq_of (by rw [Int.cast_add, Int.cast_one]; exact lo)
        (by rw [Int.cast_add, Int.cast_one]; exact add_lt_add_of_lt_of_le h2 (by norm_num))
    rw [if_neg hd, ht, Int.cast_add, Int.cast_one]
    by_cases hd2 : x - (x.floor : Rat) > 1/2
    · rw [if_pos hd2, if_neg fun h => (half_lt_frac_iff.mp hd2).ne h.1]
    · have tie : (x.floor : Rat) + 1 = x + 1/2 := le_antisymm lo (not_lt.mp (mt half_lt_frac_iff.mpr hd2))
      rw [if_neg hd2]
      by_cases hev : x.floor % 2 = 0
      · rw [if_pos hev, if_pos ⟨tie, by omega⟩]; omega
      · rw [if_neg hev, if_neg fun h => h.2 (by omega)]

theorem perc2okta_nan : ∃ e, Gen.perc2okta none = .error (.ampy e) := ⟨_, rfl⟩

@[simp] theorem toInt_round (x : Rat) : F.toInt (F.round (some x)) = .ok (roundHalfEven x) := by
  rw [round_some, rhe'_eq, toInt_intCast]

/-- The case split is the model's; in the two end bins the source rounds a `ceil` / `floor`, which is an integer
already. -/
theorem perc2okta_ok {p : Rat} (hr : 0 ≤ p ∧ p ≤ 100) : Gen.perc2okta (some p) = .ok (oktaOfPerc p) := by
  by_cases h0 : p = 0
  · subst h0; decide +kernel
  by_cases h100 : p = 100
  · subst h100; decide +kernel
  by_cases c1 : p / (100 / 8) < 1
  · -- `c7` is needed only when the source floors the upper bin before it ceils the lower one
    have c7 : ¬ 7 < p / (100 / 8) := fun h => absurd (h.trans c1) (by norm_num)
    simp [Gen.perc2okta, oktaOfPerc, rhe'_eq, rhe_intCast, hr, h0, h100, c1, c7]
  by_cases c7 : 7 < p / (100 / 8)
  · simp [Gen.perc2okta, oktaOfPerc, rhe'_eq, rhe_intCast, hr, h0, h100, c1, c7]
  · simp [Gen.perc2okta, oktaOfPerc, rhe'_eq, hr, h0, h100, c1, c7]

theorem perc2okta_refused {p : Rat} (hr : ¬ (0 ≤ p ∧ p ≤ 100)) : Gen.perc2okta (some p) = .error (.ampy "") := by
  by_cases h0 : 0 ≤ p
  · have h1 : ¬ p ≤ 100 := fun h => hr ⟨h0, h⟩
    simp [Gen.perc2okta, h0, h1]
  · simp [Gen.perc2okta, h0]

theorem perc2okta_eq (p : Rat) : sameOutcome (Gen.perc2okta (some p)) (perc2okta p) := by
  unfold perc2okta
  split_ifs with hr
  · rw [perc2okta_ok hr]; rfl
  · rw [perc2okta_refused hr]; trivial

end Ampy.GenEq
