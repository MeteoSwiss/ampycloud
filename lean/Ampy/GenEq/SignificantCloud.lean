import Ampy.Gen.SrcSignificantCloud
import Ampy.Model.Icao
/-!
Source tie for `icao.significant_cloud`, for every list of oktas.  `fold_of_step` is about any step function meeting the
point-wise specification of one loop iteration, and the generated body is shown to meet it by case analysis: a harmless
rewrite of the loop (reordered conjuncts, `append` for `+=`, an inverted `if`) still checks.
-/
namespace Ampy.GenEq
open Ampy Ampy.Py

theorem fold_of_step (f : List Bool × Int → Int → List Bool × Int)
    (hf : ∀ (sig : List Bool) (lvl o : Int), f (sig, lvl) o =
      if o > lvl ∧ sig.count true < 3 then (sig ++ [true], lvl + 2) else (sig ++ [false], lvl)) :
    ∀ (os : List Int) (lvl : Int) (sig : List Bool),
      (List.foldl f (sig, lvl) os).1 = sigLoop lvl sig os := by
  intro os
  induction os with
  | nil => intro lvl sig; rfl
  | cons o os ih =>
    intro lvl sig
    rw [List.foldl_cons, sigLoop, hf]
    by_cases h : o > lvl ∧ sig.count true < 3
    · rw [if_pos h, if_pos h]; exact ih _ _
    · rw [if_neg h, if_neg h]; exact ih _ _

theorem significant_cloud_eq (oktas : List Int) :
    Gen.significant_cloud oktas = significantCloud oktas := by
  unfold Gen.significant_cloud significantCloud
  refine fold_of_step _ ?_ oktas 0 []
  intro sig lvl o
  have hc : (countTrue sig < 3) ↔ (sig.count true < 3) := by simp only [countTrue]; omega
  by_cases h1 : o > lvl <;> by_cases h2 : sig.count true < 3 <;> simp [h1, h2, hc]

end Ampy.GenEq
