import Ampy.Gen.SrcShiftAndScale
import Ampy.Gen.SrcMinmaxScale
import Ampy.GenEq.Basic
import Ampy.Model.Scaler
/-!
Source ties for `scaler.shift_and_scale` and `scaler.minmax_scale` (numpy broadcasting read element-wise, `np.nanmax` /
`np.nanmin` instantiated by the model's), NaNs included, both modes.  One side condition: mode `do` of `shift_and_scale`
divides by `scale`, which must not be 0 (numpy's infinities are outside the model); `minmax_scale` tests for the null
range itself.
-/
namespace Ampy.GenEq
open Ampy Ampy.Py

theorem pt_do (a : PyFloat) (s k : Rat) (hk : k ≠ 0) :
    F.divz (F.sub a (some s)) (some k) = Option.map (fun v => (v - s) / k) a := by
  cases a <;> simp [hk]

theorem pt_undo (a : PyFloat) (s k : Rat) :
    F.add (F.mul a (some k)) (some s) = Option.map (fun v => v * k + s) a := by
  cases a <;> simp

theorem shiftScale1_do (s k : Rat) : shiftScale1 s k .doIt = fun v => (v - s) / k := rfl
theorem shiftScale1_undo (s k : Rat) : shiftScale1 s k .undo = fun v => v * k + s := rfl
theorem minmax1_do (lo hi : Rat) (h : hi ≠ lo) : minmax1 lo hi .doIt = fun v => (v - lo) / (hi - lo) := by
  funext v; simp only [minmax1, if_neg h]
theorem minmax1_do_null (lo : Rat) : minmax1 lo lo .doIt = fun _ => 0 := by
  funext v; simp only [minmax1, if_true]

theorem pt_null (a : PyFloat) (s : Rat) :
    F.mul (F.sub a (some s)) (F.ofInt (0 : Int)) = Option.map (fun _ => (0 : Rat)) a := by
  cases a <;> simp
theorem minmax1_undo (lo hi : Rat) : minmax1 lo hi .undo = fun v => v * (hi - lo) + lo := rfl

/-- `x = default if x is None else x` is translated as a `match` whose arms have the same body: the ties are proved for
the call with the default written out. -/
theorem shift_and_scale_default (vals : List (Option Rat)) (shift : Option Rat) (scale : Rat) (mode : String) :
    Gen.shift_and_scale nanmax vals shift scale mode =
      Gen.shift_and_scale nanmax vals (some (shift.getD (nanmax vals))) scale mode := by
  cases shift <;> rfl

theorem minmax_scale_default (vals : List (Option Rat)) (lo hi : Option Rat) (mode : String) :
    Gen.minmax_scale nanmax nanmin vals lo hi mode =
      Gen.minmax_scale nanmax nanmin vals (some (lo.getD (nanmin vals))) (some (hi.getD (nanmax vals))) mode := by
  cases lo <;> cases hi <;> rfl

theorem shift_and_scale_do (vals : List (Option Rat)) (shift : Option Rat) (scale : Rat) (hs : scale ≠ 0) :
    Gen.shift_and_scale nanmax vals shift scale "do" = .ok (shiftAndScale vals shift scale .doIt) := by
  rw [shift_and_scale_default]
  simp [Gen.shift_and_scale, shiftAndScale, pt_do _ _ _ hs, shiftScale1_do]

theorem shift_and_scale_undo (vals : List (Option Rat)) (shift : Option Rat) (scale : Rat) :
    Gen.shift_and_scale nanmax vals shift scale "undo" = .ok (shiftAndScale vals shift scale .undo) := by
  rw [shift_and_scale_default]
  simp [Gen.shift_and_scale, shiftAndScale, pt_undo, shiftScale1_undo]

theorem shift_and_scale_badmode (vals : List (Option Rat)) (shift : Option Rat) (scale : Rat) (mode : String)
    (h1 : mode ≠ "do") (h2 : mode ≠ "undo") :
    Gen.shift_and_scale nanmax vals shift scale mode = .error (.ampy "") := by
  rw [shift_and_scale_default]
  simp [Gen.shift_and_scale, h1, h2]

theorem minmax_scale_do (vals : List (Option Rat)) (lo hi : Option Rat) :
    Gen.minmax_scale nanmax nanmin vals lo hi "do" = .ok (minmaxScale vals lo hi .doIt) := by
  rw [minmax_scale_default]
  unfold minmaxScale
  generalize lo.getD (nanmin vals) = a
  generalize hi.getD (nanmax vals) = b
  by_cases h : b = a
  · subst h
    -- `pt_null` speaks of `F.ofInt 0`, as the source does: it has to fire before `ofInt_eq` unfolds that
    simp [Gen.minmax_scale, minmax1_do_null, pt_null, -ofInt_eq]
  · have hne : b - a ≠ 0 := fun e => h (by rw [← Rat.sub_add_cancel (a := b) (b := a), e, Rat.zero_add])
    simp [Gen.minmax_scale, h, minmax1_do _ _ h, pt_do _ _ _ hne]

theorem minmax_scale_undo (vals : List (Option Rat)) (lo hi : Option Rat) :
    Gen.minmax_scale nanmax nanmin vals lo hi "undo" = .ok (minmaxScale vals lo hi .undo) := by
  rw [minmax_scale_default]
  simp [Gen.minmax_scale, minmaxScale, pt_undo, minmax1_undo]

theorem minmax_scale_badmode (vals : List (Option Rat)) (lo hi : Option Rat) (mode : String)
    (h1 : mode ≠ "do") (h2 : mode ≠ "undo") :
    Gen.minmax_scale nanmax nanmin vals lo hi mode = .error (.ampy "") := by
  rw [minmax_scale_default]
  simp [Gen.minmax_scale, h1, h2]

end Ampy.GenEq
