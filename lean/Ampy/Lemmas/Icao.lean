import Ampy.Model.Icao
/-! Helper lemmas for C17: the loop equals a recursive specification, and what that says about a sequence
split at one of its layers. -/
namespace Ampy

/-- Recursive form of the 1-3-5 rule: `c` flags were already set below. -/
def specFrom : Nat → List Int → List Bool
  | _, [] => []
  | c, o :: os =>
    if c < 3 ∧ o ≥ 2 * (c : Int) + 1 then true :: specFrom (c + 1) os
    else false :: specFrom c os

theorem sigLoop_eq (os : List Int) : ∀ (lvl : Int) (sig : List Bool),
    lvl = 2 * (sig.count true : Int) →
    sigLoop lvl sig os = sig ++ specFrom (sig.count true) os := by
  induction os with
  | nil => intro lvl sig _; simp [sigLoop, specFrom]
  | cons o os ih =>
    intro lvl sig h
    unfold sigLoop specFrom
    by_cases hc : o > lvl ∧ sig.count true < 3
    · have hc' : sig.count true < 3 ∧ o ≥ 2 * (sig.count true : Int) + 1 := by omega
      rw [if_pos hc, if_pos hc']
      rw [ih (lvl + 2) (sig ++ [true]) (by simp [List.count_append]; omega)]
      simp [List.count_append]
    · have hc' : ¬ (sig.count true < 3 ∧ o ≥ 2 * (sig.count true : Int) + 1) := by omega
      rw [if_neg hc, if_neg hc']
      rw [ih lvl (sig ++ [false]) (by simp [List.count_append]; omega)]
      simp [List.count_append]

theorem significantCloud_eq_spec (os : List Int) : significantCloud os = specFrom 0 os := by
  unfold significantCloud
  rw [sigLoop_eq os 0 [] (by simp)]
  simp

theorem specFrom_length (os : List Int) : ∀ c, (specFrom c os).length = os.length := by
  induction os with
  | nil => intro c; simp [specFrom]
  | cons o os ih => intro c; unfold specFrom; split <;> simp [ih]

theorem significantCloud_length (os : List Int) : (significantCloud os).length = os.length := by
  rw [significantCloud_eq_spec, specFrom_length]

theorem specFrom_append (xs ys : List Int) : ∀ c,
    specFrom c (xs ++ ys) = specFrom c xs ++ specFrom (c + (specFrom c xs).count true) ys := by
  induction xs with
  | nil => intro c; simp [specFrom]
  | cons x xs ih =>
    intro c
    simp only [List.cons_append, specFrom]
    split
    · rw [ih (c + 1)]; simp; congr 1; omega
    · rw [ih c]; simp

theorem specFrom_count_le (os : List Int) : ∀ c, c ≤ 3 → c + (specFrom c os).count true ≤ 3 := by
  induction os with
  | nil => intro c h; simp [specFrom]; exact h
  | cons o os ih =>
    intro c h
    unfold specFrom
    split
    · rename_i hc
      have := ih (c + 1) (by omega)
      simp; omega
    · have := ih c h
      simp; omega

theorem significantCloud_split (xs : List Int) (o : Int) (ys : List Int) :
    ∃ fs, significantCloud (xs ++ o :: ys) =
      significantCloud xs ++ decide ((significantCloud xs).count true < 3 ∧
        o ≥ 2 * (((significantCloud xs).count true : Nat) : Int) + 1) :: fs := by
  simp only [significantCloud_eq_spec, specFrom_append, Nat.zero_add]
  generalize (specFrom 0 xs).count true = c
  generalize specFrom 0 xs = fx
  unfold specFrom
  split <;> rename_i hc
  · exact ⟨_, by rw [decide_eq_true hc]⟩
  · exact ⟨_, by rw [decide_eq_false hc]⟩

end Ampy
