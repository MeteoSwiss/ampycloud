import Ampy.Model.Scaler
import Ampy.Lemmas.BaseHeight
import Mathlib.Tactic.Linarith
/-!
Behind C19: the scalings of `scaler.py` over exact rationals (`none` = NaN).  Shift-and-scale, min-max and every bin of
the step scaling are the same affine map `(v - o) / s`: the arithmetic is done once for it.  `applyScaling` maps one
function `scaleFn` over the entries (`applyScaling_eq_ok_iff`), the matching `undoScaling` maps `unscaleFn`
(`undoScaling_convertSpec`); order, NaN-blindness and the round trip are read off these two normal forms.
-/
namespace Ampy

theorem aff_lt {s : Rat} (hs : 0 < s) (o : Rat) {a b : Rat} (h : a < b) : (a - o) / s < (b - o) / s :=
  div_lt_div_of_pos_right (sub_lt_sub_right h o) hs

theorem aff_nonneg {s : Rat} (hs : 0 < s) {o v : Rat} (h : o ≤ v) : 0 ≤ (v - o) / s :=
  div_nonneg (sub_nonneg.mpr h) hs.le

theorem aff_undo {s : Rat} (hs : s ≠ 0) (o v : Rat) : (v - o) / s * s + o = v := by
  rw [div_mul_cancel₀ _ hs, sub_add_cancel]

theorem shiftScale1_undo_do (shift : Rat) {scale : Rat} (hs : scale ≠ 0) (a : Rat) :
    shiftScale1 shift scale .undo (shiftScale1 shift scale .doIt a) = a :=
  aff_undo hs shift a

theorem minmax1_do_of_ne {lo hi : Rat} (h : hi ≠ lo) (v : Rat) :
    minmax1 lo hi .doIt v = (v - lo) / (hi - lo) := by
  simp only [minmax1, if_neg h]

/-- `minmax_scale` maps a null range onto 0 instead of dividing by it. -/
theorem minmax1_do_null (lo : Rat) (v : Rat) : minmax1 lo lo .doIt v = 0 := by
  simp only [minmax1, if_true]

theorem minmax1_strictMono {lo hi : Rat} (h : lo < hi) {a b : Rat} (hab : a < b) :
    minmax1 lo hi .doIt a < minmax1 lo hi .doIt b := by
  rw [minmax1_do_of_ne h.ne', minmax1_do_of_ne h.ne']
  exact aff_lt (sub_pos.mpr h) lo hab

theorem minmax1_undo_do {lo hi : Rat} (h : lo ≠ hi) (a : Rat) :
    minmax1 lo hi .undo (minmax1 lo hi .doIt a) = a := by
  rw [minmax1_do_of_ne h.symm]
  exact aff_undo (sub_ne_zero.mpr h.symm) lo a

theorem minmax1_range {lo hi a : Rat} (h0 : lo ≤ a) (h1 : a ≤ hi) :
    0 ≤ minmax1 lo hi .doIt a ∧ minmax1 lo hi .doIt a ≤ 1 := by
  rcases eq_or_lt_of_le (h0.trans h1) with rfl | h
  · rw [minmax1_do_null]; exact ⟨le_refl _, zero_le_one⟩
  · rw [minmax1_do_of_ne h.ne']
    exact ⟨aff_nonneg (sub_pos.mpr h) h0, (div_le_one (sub_pos.mpr h)).mpr (sub_le_sub_right h1 lo)⟩

theorem minrange2minmax_spec (vals : List (Option Rat)) (minRange : Rat) :
    let lo := (minrange2minmax vals minRange).1
    let hi := (minrange2minmax vals minRange).2
    (∀ v ∈ valids vals, lo ≤ v ∧ v ≤ hi) ∧ hi - lo ≥ minRange ∧
    hi - lo = max (nanmax vals - nanmin vals) minRange ∧ hi + lo = nanmax vals + nanmin vals := by
  have hb : ∀ v ∈ valids vals, nanmin vals ≤ v ∧ v ≤ nanmax vals :=
    fun v hv => ⟨minRat_le hv, le_maxRat hv⟩
  unfold minrange2minmax
  rcases le_or_gt minRange (nanmax vals - nanmin vals) with hc | hc
  · rw [if_pos hc]
    exact ⟨hb, hc, (max_eq_left hc).symm, rfl⟩
  · rw [if_neg (not_le.mpr hc), max_eq_right hc.le]
    generalize nanmax vals = M at hb hc ⊢
    generalize nanmin vals = m at hb hc ⊢
    dsimp only
    have e : (M + m) / 2 + minRange / 2 - ((M + m) / 2 - minRange / 2) = minRange := by
      rw [add_sub_sub_cancel, add_halves]
    refine ⟨fun v hv => ?_, e.ge, e, by rw [add_add_sub_cancel, add_halves]⟩
    obtain ⟨h1, h2⟩ := hb v hv
    exact ⟨by linarith only [h1, hc], by linarith only [h2, hc]⟩

/-- What `applyScaling` applies to the non-NaN entries. -/
def scaleFn (vals : List (Option Rat)) : ScaleSpec → Rat → Rat
  | .none => id
  | .shift s k => shiftScale1 (s.getD (nanmax vals)) k .doIt
  | .minmax mr => minmax1 (minrange2minmax vals mr).1 (minrange2minmax vals mr).2 .doIt
  | .minmaxFixed lo hi => minmax1 lo hi .doIt
  | .step st sc => stepDo st sc

/-- When `applyScaling` succeeds on data with a non-NaN entry. -/
def specOK : ScaleSpec → Prop
  | .step st sc => st.length + 1 = sc.length ∧ sortedRat st = true
  | _ => True

theorem map_optmap_id (vals : List (Option Rat)) : vals.map (Option.map id) = vals := by
  simp

theorem map_optmap_congr {f g : Rat → Rat} {vals : List (Option Rat)} (h : ∀ a ∈ valids vals, f a = g a) :
    vals.map (Option.map f) = vals.map (Option.map g) := by
  refine List.map_congr_left fun x hx => ?_
  cases x with
  | none => rfl
  | some a => exact congrArg some (h a (List.mem_filterMap.mpr ⟨_, hx, rfl⟩))

theorem map_optmap_optmap {f g : Rat → Rat} {vals : List (Option Rat)} (h : ∀ a ∈ valids vals, g (f a) = a) :
    (vals.map (Option.map f)).map (Option.map g) = vals := by
  rw [List.map_map, Option.map_comp_map]
  exact (map_optmap_congr (g := id) h).trans (map_optmap_id vals)

theorem valids_map_some (l : List Rat) : valids (l.map some) = l := by
  simp [valids, List.filterMap_map]

theorem valids_map_optmap (f : Rat → Rat) (vals : List (Option Rat)) :
    valids (vals.map (Option.map f)) = (valids vals).map f := by
  rw [valids, valids, List.filterMap_map, List.map_filterMap]
  rfl

theorem mem_valids_of_getElem? (vals : List (Option Rat)) (i : Nat) (x : Rat)
    (h : vals[i]? = some (some x)) : x ∈ valids vals := by
  simp only [valids, List.mem_filterMap, id]
  exact ⟨some x, List.mem_of_getElem? h, rfl⟩

theorem stepScale_eq_ok_iff (vals : List (Option Rat)) (st sc : List Rat) (m : ScaleMode) (out : List (Option Rat)) :
    stepScale vals st sc m = .ok out ↔
      (st.length + 1 = sc.length ∧ sortedRat st = true) ∧
        out = vals.map (Option.map (match m with | .doIt => stepDo st sc | .undo => stepUndo st sc)) := by
  unfold stepScale isSortedRat
  by_cases h1 : st.length + 1 = sc.length
  · by_cases h2 : sortedRat st = true
    · rw [if_neg (not_not.mpr h1), h2, if_neg (by decide)]
      cases m <;> exact ⟨fun h => ⟨⟨h1, rfl⟩, (Except.ok.inj h).symm⟩, fun h => congrArg _ h.2.symm⟩
    · rw [if_neg (not_not.mpr h1), if_pos (by simpa using h2)]
      exact ⟨fun h => (nomatch h), fun h => absurd h.1.2 h2⟩
  · rw [if_pos h1]
    exact ⟨fun h => (nomatch h), fun h => absurd h.1.1 h1⟩

theorem applyScaling_of_empty (vals : List (Option Rat)) (spec : ScaleSpec) (h : valids vals = []) :
    applyScaling vals spec = .ok vals := by
  cases spec <;> simp [applyScaling, h]

theorem applyScaling_of_ne (vals : List (Option Rat)) (spec : ScaleSpec) (h : valids vals ≠ [])
    (hok : specOK spec) :
    applyScaling vals spec = .ok (vals.map (Option.map (scaleFn vals spec))) := by
  cases spec with
  | none => simp [applyScaling, scaleFn]
  | shift s k => simp [applyScaling, h, scaleFn, shiftAndScale]
  | minmax mr => simp [applyScaling, h, scaleFn, minmaxScale]
  | minmaxFixed lo hi => simp [applyScaling, h, scaleFn, minmaxScale]
  | step st sc =>
    simp only [applyScaling, List.isEmpty_iff, h, if_false, scaleFn]
    exact (stepScale_eq_ok_iff vals st sc .doIt _).mpr ⟨hok, rfl⟩

/-- The all-NaN shortcut of the code returns the same list as mapping `scaleFn`. -/
theorem applyScaling_eq_ok_iff (vals : List (Option Rat)) (spec : ScaleSpec) (out : List (Option Rat)) :
    applyScaling vals spec = .ok out ↔
      (valids vals ≠ [] → specOK spec) ∧ out = vals.map (Option.map (scaleFn vals spec)) := by
  by_cases he : valids vals = []
  · have e := applyScaling_of_empty vals spec he
    have e' : vals.map (Option.map (scaleFn vals spec)) = vals :=
      (map_optmap_congr fun a ha => by rw [he] at ha; cases ha).trans (map_optmap_id vals)
    rw [e, e', Except.ok.injEq]
    exact ⟨fun h => ⟨fun hne => absurd he hne, h.symm⟩, fun h => h.2.symm⟩
  · constructor
    · intro h
      have hok : specOK spec := by
        cases spec with
        | step st sc =>
          simp only [applyScaling, List.isEmpty_iff, he, if_false] at h
          exact ((stepScale_eq_ok_iff vals st sc _ out).mp h).1
        | _ => trivial
      rw [applyScaling_of_ne vals spec he hok] at h
      exact ⟨fun _ => hok, (Except.ok.inj h).symm⟩
    · rintro ⟨hok, rfl⟩
      exact applyScaling_of_ne vals spec he (hok he)

theorem scaleFn_congr (vals vals' : List (Option Rat)) (spec : ScaleSpec)
    (h : valids vals = valids vals') : scaleFn vals spec = scaleFn vals' spec := by
  cases spec <;> simp [scaleFn, minrange2minmax, nanmax, nanmin, h]

/-- Scaling commutes with dropping the NaNs. -/
theorem applyScaling_valids (vals : List (Option Rat)) (spec : ScaleSpec) (out : List (Option Rat))
    (h : applyScaling vals spec = .ok out) :
    applyScaling ((valids vals).map some) spec = .ok ((valids out).map some) := by
  obtain ⟨hok, rfl⟩ := (applyScaling_eq_ok_iff vals spec _).mp h
  have hv : valids ((valids vals).map some) = valids vals := valids_map_some _
  refine (applyScaling_eq_ok_iff _ spec _).mpr ⟨fun hne => hok (hv ▸ hne), ?_⟩
  rw [valids_map_optmap, scaleFn_congr _ vals spec hv, List.map_map, List.map_map]
  rfl

theorem stepBin_nil (v : Rat) : stepBin [] v = 0 := rfl

theorem stepBin_cons_le (a : Rat) (l : List Rat) (v : Rat) (h : a ≤ v) :
    stepBin (a :: l) v = stepBin l v + 1 := by
  simp [stepBin, h]

theorem stepBin_cons_gt (a : Rat) (l : List Rat) (v : Rat) (h : v < a) :
    stepBin (a :: l) v = stepBin l v := by
  simp [stepBin, not_le.mpr h]

theorem stepBin_le_length (l : List Rat) (v : Rat) : stepBin l v ≤ l.length :=
  List.length_filter_le _ _

theorem stepBin_mono (l : List Rat) {a b : Rat} (hab : a ≤ b) : stepBin l a ≤ stepBin l b := by
  unfold stepBin
  rw [← List.countP_eq_length_filter, ← List.countP_eq_length_filter]
  exact List.countP_mono_left fun x _ hx => by simpa using (of_decide_eq_true hx).trans hab

theorem stepBin_eq_zero {l : List Rat} {v : Rat} (h : ∀ x ∈ l, v < x) : stepBin l v = 0 := by
  simp only [stepBin, List.length_eq_zero_iff, List.filter_eq_nil_iff, decide_eq_true_eq, not_le]
  exact h

theorem getD_le_iff_lt_stepBin {l : List Rat} (hs : l.Pairwise (· ≤ ·)) (v : Rat) {k : Nat} (hk : k < l.length) :
    l.getD k 0 ≤ v ↔ k < stepBin l v := by
  induction l generalizing k with
  | nil => cases hk
  | cons a l ih =>
    rw [List.pairwise_cons] at hs
    by_cases ha : a ≤ v
    · rw [stepBin_cons_le a l v ha]
      cases k with
      | zero => simpa using ha
      | succ k =>
        rw [List.getD_cons_succ, ih hs.2 (Nat.lt_of_succ_lt_succ hk)]
        exact Nat.succ_lt_succ_iff.symm
    · -- the head is above `v`, hence so is everything: the bin is 0
      have hall : ∀ x ∈ a :: l, v < x := fun x hx =>
        (List.mem_cons.mp hx).elim (fun e => e ▸ not_le.mp ha) fun hx => (not_le.mp ha).trans_le (hs.1 x hx)
      rw [stepBin_eq_zero hall, ← List.getElem_eq_getD (h := hk) 0]
      exact ⟨fun h => absurd h (not_le.mpr (hall _ (List.getElem_mem hk))), fun h => absurd h (Nat.not_lt_zero k)⟩

theorem stepBin_eq_of {l : List Rat} {v : Rat} {k : Nat} (h : ∀ j, j < l.length → (l.getD j 0 ≤ v ↔ j < k))
    (hk : k ≤ l.length) : stepBin l v = k := by
  induction l generalizing k with
  | nil => exact (Nat.le_zero.mp hk).symm
  | cons a l ih =>
    have h0 := h 0 (Nat.succ_pos _)
    rw [List.getD_cons_zero] at h0
    cases k with
    | zero =>
      rw [stepBin_cons_gt a l v (not_le.mp (mt h0.mp (Nat.lt_irrefl 0)))]
      exact ih (fun j hj => (h (j + 1) (Nat.succ_lt_succ hj)).trans
        ⟨fun h => absurd h (Nat.not_lt_zero _), fun h => absurd h (Nat.not_lt_zero _)⟩) (Nat.zero_le _)
    | succ k =>
      rw [stepBin_cons_le a l v (h0.mpr (Nat.succ_pos k)),
        ih (fun j hj => (h (j + 1) (Nat.succ_lt_succ hj)).trans Nat.succ_lt_succ_iff) (Nat.le_of_succ_le_succ hk)]

/-! On bin `k` the scaled value is `(v - stepOff k) / scale k + stepEdgeOut k`, and the next scaled edge is this
expression at the upper end of the bin: hence continuity, and increasing scaled edges. -/

/-- The scales are dividers: positive ones keep the order of the data. -/
def PosScales (scales : List Rat) : Prop := ∀ s ∈ scales, 0 < s

/-- Lower edge (input side) of bin `k`. -/
def stepOff (steps : List Rat) (k : Nat) : Rat := if k = 0 then 0 else steps.getD (k - 1) 0

theorem stepEdgeOut_succ (steps scales : List Rat) (k : Nat) :
    stepEdgeOut steps scales (k + 1) =
      (steps.getD k 0 - stepOff steps k) / scales.getD k 1 + stepEdgeOut steps scales k := by
  cases k with
  | zero => simp [stepEdgeOut, stepOff]
  | succ j =>
    rw [stepEdgeOut, add_comm]
    simp only [stepOff, Nat.add_sub_cancel, Nat.succ_ne_zero, if_false]

theorem stepDo_eq (steps scales : List Rat) (v : Rat) :
    stepDo steps scales v =
      (v - stepOff steps (stepBin steps v)) / scales.getD (stepBin steps v) 1
        + stepEdgeOut steps scales (stepBin steps v) := rfl

/-- The step specifications that `step_scale` accepts and whose scales are positive. -/
abbrev StepOK (steps scales : List Rat) : Prop :=
  steps.length + 1 = scales.length ∧ sortedRat steps = true ∧ PosScales scales

section step
variable {steps scales : List Rat}

theorem StepOK.scale_pos (h : StepOK steps scales) {k : Nat} (hk : k ≤ steps.length) : 0 < scales.getD k 1 := by
  have hk' : k < scales.length := by have := h.1; omega
  rw [← List.getElem_eq_getD (h := hk') 1]
  exact h.2.2 _ (List.getElem_mem hk')

theorem StepOK.getD_le_iff (h : StepOK steps scales) (v : Rat) {k : Nat} (hk : k < steps.length) :
    steps.getD k 0 ≤ v ↔ k < stepBin steps v :=
  getD_le_iff_lt_stepBin ((sortedRat_iff steps).mp h.2.1) v hk

/-- Not for the first bin: its lower end is the conventional 0, not a step. -/
theorem StepOK.stepOff_le (h : StepOK steps scales) {k : Nat} (h1 : 1 ≤ k) (hk : k < steps.length) :
    stepOff steps k ≤ steps.getD k 0 := by
  rw [stepOff, if_neg (by omega)]
  have := (h.getD_le_iff (steps.getD k 0) hk).mp (le_refl _)
  exact (h.getD_le_iff _ (by omega)).mpr (by omega)

theorem StepOK.stepOff_le_self (h : StepOK steps scales) {v : Rat} (h1 : 1 ≤ stepBin steps v) :
    stepOff steps (stepBin steps v) ≤ v := by
  rw [stepOff, if_neg (by omega)]
  exact (h.getD_le_iff v (by have := stepBin_le_length steps v; omega)).mpr (by omega)

theorem StepOK.lt_getD_stepBin (h : StepOK steps scales) {v : Rat} (hk : stepBin steps v < steps.length) :
    v < steps.getD (stepBin steps v) 0 :=
  not_le.mp (mt (h.getD_le_iff v hk).mp (Nat.lt_irrefl _))

theorem StepOK.stepEdgeOut_mono (h : StepOK steps scales) {m n : Nat} (hm : 1 ≤ m) (hmn : m ≤ n)
    (hn : n ≤ steps.length) : stepEdgeOut steps scales m ≤ stepEdgeOut steps scales n := by
  induction n, hmn using Nat.le_induction with
  | base => exact le_refl _
  | succ n hmn ih =>
    rw [stepEdgeOut_succ]
    exact (ih (by omega)).trans
      (le_add_of_nonneg_left (aff_nonneg (h.scale_pos (by omega)) (h.stepOff_le (by omega) (by omega))))

theorem StepOK.stepDo_lower (h : StepOK steps scales) {v : Rat} (hk : 1 ≤ stepBin steps v) :
    stepEdgeOut steps scales (stepBin steps v) ≤ stepDo steps scales v :=
  le_add_of_nonneg_left (aff_nonneg (h.scale_pos (stepBin_le_length steps v)) (h.stepOff_le_self hk))

theorem StepOK.stepDo_upper (h : StepOK steps scales) {v : Rat} (hk : stepBin steps v < steps.length) :
    stepDo steps scales v < stepEdgeOut steps scales (stepBin steps v + 1) := by
  rw [stepEdgeOut_succ]
  exact add_lt_add_left (aff_lt (h.scale_pos hk.le) _ (h.lt_getD_stepBin hk)) _

theorem StepOK.stepDo_strictMono (h : StepOK steps scales) {a b : Rat} (hab : a < b) :
    stepDo steps scales a < stepDo steps scales b := by
  rcases Nat.eq_or_lt_of_le (stepBin_mono steps hab.le) with heq | hlt
  · rw [stepDo_eq, stepDo_eq, heq]
    exact add_lt_add_left (aff_lt (h.scale_pos (stepBin_le_length steps b)) _ hab) _
  · -- different bins: an edge lies between the two values
    have hb := stepBin_le_length steps b
    exact (h.stepDo_upper (by omega)).trans_le
      ((h.stepEdgeOut_mono (by omega) hlt hb).trans (h.stepDo_lower (by omega)))

/-- Scaling keeps the bin: this is what lets `undo` pick the right piece. -/
theorem StepOK.stepBin_stepDo (h : StepOK steps scales) (a : Rat) :
    stepBin ((List.range steps.length).map fun k => stepEdgeOut steps scales (k + 1)) (stepDo steps scales a) =
      stepBin steps a := by
  have hb := stepBin_le_length steps a
  refine stepBin_eq_of (fun j hj => ?_) (by simpa using hb)
  have hj' : j < steps.length := by simpa using hj
  rw [← List.getElem_eq_getD (h := hj) 0, List.getElem_map, List.getElem_range]
  constructor
  · intro hle
    by_contra hlt
    exact absurd hle (not_le.mpr ((h.stepDo_upper (by omega)).trans_le
      (h.stepEdgeOut_mono (by omega) (by omega) (by omega))))
  · intro hlt
    exact (h.stepEdgeOut_mono (by omega) hlt hb).trans (h.stepDo_lower (by omega))

theorem StepOK.stepUndo_do (h : StepOK steps scales) (a : Rat) :
    stepUndo steps scales (stepDo steps scales a) = a := by
  simp only [stepUndo, h.stepBin_stepDo a]
  rw [stepDo_eq, add_sub_cancel_right]
  exact aff_undo (h.scale_pos (stepBin_le_length steps a)).ne' _ a

end step

/-- Where `scaleFn` is increasing (`C19_order_preserving`). -/
def OrderDomain (vals : List (Option Rat)) : ScaleSpec → Prop
  | .none => True
  | .shift _ k => 0 < k
  | .minmax mr => 0 ≤ mr ∧ 0 < max (nanmax vals - nanmin vals) mr
  | .minmaxFixed lo hi => lo < hi
  | .step st sc => StepOK st sc

/-- Where `unscaleFn` inverts `scaleFn` (`C19_kwargs_roundtrip`). -/
def InverseDomain (vals : List (Option Rat)) : ScaleSpec → Prop
  | .none => True
  | .shift _ k => k ≠ 0
  | .minmax mr => 0 ≤ mr ∧ 0 < max (nanmax vals - nanmin vals) mr
  | .minmaxFixed lo hi => lo ≠ hi
  | .step st sc => StepOK st sc

theorem InverseDomain.specOK {vals : List (Option Rat)} {spec : ScaleSpec} (h : InverseDomain vals spec) :
    specOK spec := by
  cases spec with
  | step st sc => exact ⟨h.1, h.2.1⟩
  | _ => trivial

theorem minrange2minmax_lt (vals : List (Option Rat)) (mr : Rat) (hspan : 0 < max (nanmax vals - nanmin vals) mr) :
    (minrange2minmax vals mr).1 < (minrange2minmax vals mr).2 := by
  obtain ⟨_, _, hw, _⟩ := minrange2minmax_spec vals mr
  exact sub_pos.mp (hw ▸ hspan)

theorem scaleFn_strictMono (vals : List (Option Rat)) (spec : ScaleSpec) (hdom : OrderDomain vals spec) {a b : Rat}
    (hab : a < b) : scaleFn vals spec a < scaleFn vals spec b := by
  cases spec with
  | none => exact hab
  | shift s k => exact aff_lt hdom _ hab
  | minmax mr => exact minmax1_strictMono (minrange2minmax_lt vals mr hdom.2) hab
  | minmaxFixed lo hi => exact minmax1_strictMono hdom hab
  | step st sc => exact StepOK.stepDo_strictMono hdom hab

/-- What `undoScaling` applies with the keywords of `convertSpec`. -/
def unscaleFn (vals : List (Option Rat)) : ScaleSpec → Rat → Rat
  | .none => id
  | .shift s k => shiftScale1 (s.getD (nanmax vals)) k .undo
  | .minmax mr => minmax1 (minrange2minmax vals mr).1 (minrange2minmax vals mr).2 .undo
  | .minmaxFixed lo hi => minmax1 lo hi .undo
  | .step st sc => stepUndo st sc

theorem undoScaling_convertSpec (vals out : List (Option Rat)) (spec : ScaleSpec) (hok : specOK spec) :
    undoScaling out (convertSpec vals spec) = .ok (out.map (Option.map (unscaleFn vals spec))) := by
  cases spec with
  | none => simp [convertSpec, undoScaling, unscaleFn]
  | shift s k => cases s <;> rfl
  | minmax mr => rfl
  | minmaxFixed lo hi => rfl
  | step st sc => exact (stepScale_eq_ok_iff out st sc .undo _).mpr ⟨hok, rfl⟩

theorem unscaleFn_scaleFn (vals : List (Option Rat)) (spec : ScaleSpec) (hdom : InverseDomain vals spec) (a : Rat) :
    unscaleFn vals spec (scaleFn vals spec a) = a := by
  cases spec with
  | none => rfl
  | shift s k => exact shiftScale1_undo_do _ hdom a
  | minmax mr => exact minmax1_undo_do (minrange2minmax_lt vals mr hdom.2).ne a
  | minmaxFixed lo hi => exact minmax1_undo_do hdom a
  | step st sc => exact StepOK.stepUndo_do hdom a

end Ampy
