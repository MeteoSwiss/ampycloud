import Mathlib.Data.List.Forall2
import Mathlib.Data.Finset.Card
import Batteries.Data.List.Perm
import Mathlib.Data.List.Nodup
import Mathlib.Data.List.Induction
import Mathlib.Algebra.Order.Group.Defs
import Mathlib.Algebra.Order.Ring.Rat
/-!
List facts that do not mention the model (Mathlib).
-/
namespace Ampy

theorem foldl_range_inv {σ} (f : σ → Nat → σ) (Inv : Nat → σ → Prop) (n : Nat) (s : σ) (h0 : Inv 0 s)
    (hstep : ∀ k s, k < n → Inv k s → Inv (k + 1) (f s k)) : Inv n ((List.range n).foldl f s) := by
  induction n with
  | zero => exact h0
  | succ n ih =>
    rw [List.range_succ, List.foldl_append, List.foldl_cons, List.foldl_nil]
    exact hstep n _ (Nat.lt_succ_self n) (ih fun k s hk => hstep k s (Nat.lt_succ_of_lt hk))

theorem getElem?_inj_of_map_nodup {β γ} {f : β → γ} {l : List β} (h : (l.map f).Nodup) {i j : Nat} {a b : β}
    (hi : l[i]? = some a) (hj : l[j]? = some b) (hab : f a = f b) : i = j := by
  have hi' : (l.map f)[i]? = some (f a) := by rw [List.getElem?_map, hi]; rfl
  have hj' : (l.map f)[j]? = some (f a) := by rw [List.getElem?_map, hj, hab]; rfl
  exact (List.getElem?_inj (List.getElem?_eq_some_iff.mp hi').1 h).mp (hi'.trans hj'.symm)

theorem mem_map_replace {β} [DecidableEq β] (l : List β) (src dst : β) (hne : dst ≠ src) (hd : dst ∈ l) (x : β) :
    x ∈ l.map (fun y => if y = src then dst else y) ↔ x ∈ l ∧ x ≠ src := by
  rw [List.mem_map]
  constructor
  · rintro ⟨y, hy, rfl⟩
    by_cases hys : y = src
    · rw [if_pos hys]; exact ⟨hd, hne⟩
    · rw [if_neg hys]; exact ⟨hy, hys⟩
  · rintro ⟨hx, hxs⟩
    exact ⟨x, hx, if_neg hxs⟩

theorem eraseDups_length_pos {β} [BEq β] (l : List β) (h : l ≠ []) : 1 ≤ (l.eraseDups).length := by
  cases l with
  | nil => exact absurd rfl h
  | cons a t =>
    rw [List.eraseDups_cons, List.length_cons]
    omega

theorem getElem?_map_range_iff {β} (F : Nat → β) (m i : Nat) (f : β) :
    ((List.range m).map F)[i]? = some f ↔ i < m ∧ f = F i := by
  rw [List.getElem?_map, Option.map_eq_some_iff]
  constructor
  · rintro ⟨j, hj, rfl⟩
    obtain ⟨h1, h2⟩ := List.getElem?_eq_some_iff.mp hj
    rw [List.length_range] at h1
    rw [List.getElem_range] at h2
    exact ⟨h2 ▸ h1, by rw [h2]⟩
  · rintro ⟨h, rfl⟩
    exact ⟨i, List.getElem?_range h, rfl⟩

theorem forall₂_getElem? {β γ} {R : β → γ → Prop} {l₁ : List β} {l₂ : List γ} (h : List.Forall₂ R l₁ l₂)
    {i : Nat} {a : β} {b : γ} (ha : l₁[i]? = some a) (hb : l₂[i]? = some b) : R a b := by
  obtain ⟨h₁, rfl⟩ := List.getElem?_eq_some_iff.mp ha
  obtain ⟨h₂, rfl⟩ := List.getElem?_eq_some_iff.mp hb
  exact h.get h₁ h₂

theorem find?_zip_nodup (pos ids : List Nat) (hnd : pos.Nodup) (j : Nat) (h1 : j < pos.length) (h2 : j < ids.length) :
    (pos.zip ids).find? (·.1 = pos[j]) = some (pos[j], ids[j]) := by
  rw [List.find?_eq_some_iff_getElem]
  refine ⟨decide_eq_true rfl, j, by rw [List.length_zip]; omega, List.getElem_zip, fun j' hj' => ?_⟩
  rw [List.getElem_zip, Bool.not_eq_eq_eq_not, Bool.not_true, decide_eq_false_iff_not,
    hnd.getElem_inj_iff]
  omega

theorem filterMap_range_mapIdx {β γ} (f : Nat → β → γ) (t : List β) :
    ((List.range t.length).filterMap fun i => (t[i]?).map (f i)) = t.mapIdx f := by
  induction t using List.reverseRecOn with
  | nil => simp
  | append_singleton l a ih =>
    rw [List.length_append, List.length_singleton, List.range_succ, List.filterMap_append, List.mapIdx_concat, ← ih]
    congr 1
    · apply List.filterMap_congr
      intro i hi
      rw [List.mem_range] at hi
      rw [List.getElem?_append_left hi]
    · simp

theorem mem_set_eraseIdx {β} (l : List β) (k : Nat) (x e : β) (hk1 : 1 ≤ k) (hk : k < l.length)
    (he : e ∈ (l.eraseIdx k).set (k - 1) x) :
    e = x ∨ ∃ j, ∃ (hj : j < l.length), j ≠ k ∧ j ≠ k - 1 ∧ l[j] = e := by
  obtain ⟨i, hi, rfl⟩ := List.mem_iff_getElem.mp he
  rw [List.length_set, List.length_eraseIdx, if_pos hk] at hi
  rw [List.getElem_set]
  split
  · exact .inl rfl
  · right
    rw [List.getElem_eraseIdx]
    split
    · exact ⟨i, by omega, by omega, by omega, rfl⟩
    · exact ⟨i + 1, by omega, by omega, by omega, rfl⟩

theorem map_set_eraseIdx {β γ} (f : β → γ) (l : List β) (k : Nat) (x : β) (hk1 : 1 ≤ k) (hk : k < l.length)
    (hx : f x = f (l[k - 1]'(by omega))) : ((l.eraseIdx k).set (k - 1) x).map f = (l.map f).eraseIdx k := by
  have hlt : k - 1 < ((l.map f).eraseIdx k).length := by
    rw [List.length_eraseIdx, List.length_map, if_pos hk]
    omega
  have : ((l.map f).eraseIdx k)[k - 1] = f x := by
    rw [List.getElem_eraseIdx_of_lt hlt (by omega), List.getElem_map, hx]
  rw [List.map_set, ← List.eraseIdx_map, ← this, List.set_getElem_self]

/-- Non-negative gaps between neighbours make the list sorted, so the gap required below an entry bounds its
gap to every earlier entry. -/
theorem gaps_of_adjacent_gaps (l : List Rat) (s : Rat → Rat) (hs : ∀ x, 0 ≤ s x)
    (h : ∀ k (hk : k + 1 < l.length), l[k + 1] - l[k] ≥ s l[k + 1]) :
    ∀ i j (hij : i < j) (hj : j < l.length), l[j] - l[i]'(Nat.lt_trans hij hj) ≥ s l[j] := by
  intro i j hij hj
  cases j with
  | zero => exact absurd hij (Nat.not_lt_zero _)
  | succ m =>
    have hsort : l.Pairwise (· ≤ ·) :=
      (List.isChain_iff_getElem.mpr fun k hk => sub_nonneg.mp (le_trans (hs _) (h k hk))).pairwise
    have hm : m < l.length := Nat.lt_of_succ_lt hj
    have hmono : l[i]'(Nat.lt_trans hij hj) ≤ l[m] := by
      rcases Nat.lt_or_eq_of_le (Nat.le_of_lt_succ hij) with him | rfl
      · exact List.pairwise_iff_getElem.mp hsort i m _ hm him
      · exact le_refl _
    exact le_trans (h m hj) (sub_le_sub_left hmono _)

theorem eraseDups_nodup {β} [BEq β] [LawfulBEq β] : ∀ (l : List β), l.eraseDups.Nodup
  | [] => by simp
  | a :: as => by
    rw [List.eraseDups_cons]
    have ih := eraseDups_nodup (as.filter fun b => !b == a)
    rw [List.nodup_cons]
    refine ⟨?_, ih⟩
    simp [List.mem_eraseDups]
termination_by l => l.length
decreasing_by
  simp only [List.length_cons]
  exact Nat.lt_succ_of_le (List.length_filter_le _ _)

theorem eraseDups_length_eq_card {β} [BEq β] [LawfulBEq β] [DecidableEq β] (l : List β) :
    l.eraseDups.length = l.toFinset.card := by
  rw [← List.toFinset_card_of_nodup (eraseDups_nodup l)]
  congr 1
  ext x
  simp [List.mem_eraseDups]

theorem eraseDups_length_le_of_subset {β} [BEq β] [LawfulBEq β] (a b : List β) (h : a ⊆ b) :
    a.eraseDups.length ≤ b.eraseDups.length :=
  (List.subperm_of_subset (eraseDups_nodup a) fun _ hx =>
    List.mem_eraseDups.mpr (h (List.mem_eraseDups.mp hx))).length_le

theorem eraseDups_length_congr {β} [BEq β] [LawfulBEq β] {a b : List β} (h : ∀ x, x ∈ a ↔ x ∈ b) :
    a.eraseDups.length = b.eraseDups.length :=
  le_antisymm (eraseDups_length_le_of_subset a b fun x => (h x).mp)
    (eraseDups_length_le_of_subset b a fun x => (h x).mpr)

theorem eraseDups_length_map {β γ} [DecidableEq β] [DecidableEq γ] (f : β → γ) (hf : Function.Injective f)
    (l : List β) : (l.map f).eraseDups.length = l.eraseDups.length := by
  have : (l.map f).toFinset = l.toFinset.image f := by
    ext v
    simp only [List.mem_toFinset, List.mem_map, Finset.mem_image]
  rw [eraseDups_length_eq_card, this, Finset.card_image_of_injective _ hf, ← eraseDups_length_eq_card]

theorem zip_getElem_mem {β γ} (l₁ : List β) (l₂ : List γ) (i : Nat) (h₁ : i < l₁.length) (h₂ : i < l₂.length) :
    (l₁[i], l₂[i]) ∈ l₁.zip l₂ := by
  rw [List.mem_iff_getElem]
  exact ⟨i, by simp [h₁, h₂], by simp⟩

theorem getD_true_iff (m : List Bool) (i : Nat) :
    m.getD i false = true ↔ m[i]? = some true := by
  rw [List.getD_eq_getElem?_getD]
  cases m[i]? <;> simp

theorem forall₂_mem_right {β γ} {R : β → γ → Prop} {l : List β} {rows : List γ}
    (h : List.Forall₂ R l rows) : ∀ r ∈ rows, ∃ c ∈ l, R c r := by
  induction h with
  | nil => intro r hr; cases hr
  | cons hr _ ih =>
    intro r hm
    rcases List.mem_cons.mp hm with rfl | hm
    · exact ⟨_, List.mem_cons_self, hr⟩
    · obtain ⟨c, hc, hcr⟩ := ih r hm
      exact ⟨c, List.mem_cons_of_mem _ hc, hcr⟩

theorem find?_key_of_nodup {β κ} [DecidableEq κ] (key : β → κ) (l : List β) (hnd : (l.map key).Nodup)
    (i : Nat) (h : i < l.length) : l.find? (fun x => decide (key x = key l[i])) = some l[i] := by
  rw [List.find?_eq_some_iff_getElem]
  refine ⟨decide_eq_true rfl, i, h, rfl, fun j hj => ?_⟩
  simp only [Bool.not_eq_eq_eq_not, Bool.not_true, decide_eq_false_iff_not]
  exact fun e => Nat.ne_of_lt hj
    (getElem?_inj_of_map_nodup hnd (List.getElem?_eq_getElem _) (List.getElem?_eq_getElem h) e)

end Ampy
