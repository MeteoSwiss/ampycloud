import Ampy.Model.Pipeline
import Ampy.Lemmas.Sat
/-!
The larger functions of the cascade (`Model/Pipeline`) as compositions of named pieces, with the equation that says so.
A stage is split into the step that consults a kernel or can refuse and the pure write-back into the id column. The
`do` blocks distribute `>>=` over their `if`s, so some equations need a few rewrites; the others hold by `rfl`.
-/
namespace Ampy

/-- `fillna`: an optional id column completed by the column of the level above. -/
def fillIds (l : List (Option Int)) (ids : List Int) : List Int := (l.zip ids).map fun (x, g) => x.getD g

/-- `scatterLabels` by recursion on the rows. -/
def scatGo {α} (d : Int) : List (Hit α) → List Int → List Int
  | [], _ => []
  | h :: t, ls =>
    match h.height, ls with
    | some _, l :: r => l :: scatGo d t r
    | some _, [] => d :: scatGo d t []
    | none, ls => d :: scatGo d t ls

theorem scatterLabels_fold {α} (d : Int) (data : List (Hit α)) : ∀ (acc labels : List Int),
    (data.foldl (fun (acc : List Int × List Int) h =>
      match h.height, acc.2 with
      | some _, l :: rest => (acc.1 ++ [l], rest)
      | some _, [] => (acc.1 ++ [d], [])
      | none, ls => (acc.1 ++ [d], ls)) (acc, labels)).1 = acc ++ scatGo d data labels := by
  induction data with
  | nil => intro acc labels; simp [scatGo]
  | cons h t ih =>
    intro acc labels
    rw [List.foldl_cons]
    cases hh : h.height with
    | none =>
      simp only [scatGo, hh]
      rw [ih]; simp
    | some y =>
      cases labels with
      | nil => simp only [scatGo, hh]; rw [ih]; simp
      | cons l r => simp only [scatGo, hh]; rw [ih]; simp

theorem scatterLabels_eq {α} (data : List (Hit α)) (labels : List Int) (d : Int) :
    scatterLabels data labels d = scatGo d data labels :=
  (scatterLabels_fold d data [] labels).trans (List.nil_append _)

/-- `find_groups`: which rows lie in the slices of a bundle. -/
def bundleMask (sids : List Int) (slices : Table) (bundle : List Nat) : List Bool :=
  sids.map ((bundle.filterMap fun i => (slices[i]?).map (·.cid)).contains ·)

/-- `find_groups`: the height scaling of a bundle, its smallest fluffiness clipped. -/
def bundleScale {α} (P : PPrms α) (slices : Table) (bundle : List Nat) : ScaleSpec :=
  .shift (some 0) (min P.hScaleHi (max P.hScaleLo (minRat (bundle.filterMap fun i => (slices[i]?).map (·.fluff)))))

/-- `find_groups`: row numbers of the clustered hits. -/
def bundleRows {α} (data : List (Hit α)) (inB : List Bool) : List Nat :=
  ((List.range data.length).zip (data.zip inB)).filterMap fun (i, (h, k)) =>
    if k && h.height.isSome then some i else none

/-- `find_groups`: cluster `c` takes the most frequent slice id of its rows. -/
def voteStep (sids : List Int) (rowsIdx labels : List Nat) (g : List (Option Int)) (c : Nat) : List (Option Int) :=
  let rowsC := (rowsIdx.zip labels).filterMap fun (i, l) => if l = c then some i else none
  match modeInt (rowsC.filterMap (sids[·]?)) with
  | some m => (List.range g.length).map fun i => if rowsC.contains i then some m else g.getD i none
  | none => g

theorem groupBundle_eq {α} (K : Kern) (P : PPrms α) (data : List (Hit α)) (sids : List Int) (slices : Table)
    (bundle : List Nat) (gids : List (Option Int)) :
    groupBundle K P data sids slices bundle gids =
      scaledPoints data P.grpDtScale (bundleScale P slices bundle) (bundleMask sids slices bundle) >>= fun pts =>
        if pts.length < 2 then pure gids
        else pure ((List.range (nLabels (K.cluster "single" 1 pts))).foldl
          (voteStep sids (bundleRows data (bundleMask sids slices bundle)) (K.cluster "single" 1 pts)) gids) :=
  rfl

/-- `_merge_close_groups`: group `a` merged into group `b`. -/
def relabel (gids : List Int) (a b : Int) : List Int := gids.map fun g => if g = a then b else g

theorem mergeLoop_succ {α} [DecidableEq α] (K : Kern) (P : PPrms α) (data : List (Hit α)) (fuel : Nat)
    (gids : List Int) (prelim : List (Int × Rat)) :
    mergeLoop K P data (fuel + 1) gids prelim =
      firstTooClose P.toPrms (prelim.map (·.2)) >>= fun r =>
        match r with
        | none => pure (gids, prelim)
        | some k =>
          match prelim[k]?, prelim[k - 1]? with
          | some (cidK, _), some (cidB, _) =>
            groupBase K P data (relabel gids cidK cidB) cidB >>= fun b =>
              mergeLoop K P data fuel (relabel gids cidK cidB) ((prelim.eraseIdx k).set (k - 1) (cidB, b))
          | _, _ => pure (gids, prelim) := by
  rw [mergeLoop]
  rfl

theorem mergeCloseGroups_eq {α} [DecidableEq α] (K : Kern) (P : PPrms α) (data : List (Hit α)) (gids : List Int) :
    mergeCloseGroups K P data gids =
      (clusterIds gids).mapM (groupBase K P data gids) >>= fun bases =>
        mergeLoop K P data (applyPerm (K.prelimOrder bases) ((clusterIds gids).zip bases)).length gids
          (applyPerm (K.prelimOrder bases) ((clusterIds gids).zip bases)) >>= fun r => pure r.1 :=
  rfl

theorem groupIds_eq {α} [DecidableEq α] (K : Kern) (P : PPrms α) (data : List (Hit α)) (sids : List Int)
    (slices : Table) :
    groupIds K P data sids slices =
      (bundlesOf (P.padPerc / 100) slices).1.foldlM (fun g b => groupBundle K P data sids slices b g)
          (data.map fun _ => none) >>= fun g1 =>
        mergeCloseGroups K P data (fillIds g1 sids) >>= fun merged =>
          pure (merged, (bundlesOf (P.padPerc / 100) slices).2) :=
  rfl

/-- `ncomp_from_gmm`: one iteration of the re-merge pass. -/
def remergeStep (minSep : Rat) (sortedBases : List Rat) (st : List Nat × List Nat × Nat) (ind : Nat) :
    List Nat × List Nat × Nat :=
  match sortedBases[ind + 1]?, sortedBases[ind]? with
  | some hi, some lo =>
    if hi - lo ≥ minSep then st
    else
      match st.1[ind + 1]?, st.1[ind]? with
      | some src, some dst =>
        (st.1.set (ind + 1) dst, st.2.1.map (fun b => if b = src then dst else b), st.2.2 - 1)
      | _, _ => st
  | _, _ => st

theorem remerge_eq (minSep : Rat) (sb : List Rat) (order ids : List Nat) (n : Nat) :
    remerge minSep sb order ids n =
      (((List.range (sb.length - 1)).foldl (remergeStep minSep sb) (order, ids, n)).2.1,
       ((List.range (sb.length - 1)).foldl (remergeStep minSep sb) (order, ids, n)).2.2) := rfl

/-- `ncomp_from_gmm`, `Fix #119`: the score of a mixture with an empty component is raised. -/
def Sel.boostStep (fits : List GmmFit) (ab : List Rat) (i : Nat) : List Rat :=
  match fits[i]? with
  | some f => if (f.labels.eraseDups).length < i + 1 then ab.set i (maxRat ab + 1) else ab
  | none => ab

theorem Sel.boostScores_eq (fits : List GmmFit) :
    boostScores fits = (List.range fits.length).foldl (Sel.boostStep fits) (fits.map (·.score)) := rfl

/-- `ncomp_from_gmm`: the values handed to the mixtures (`rescale_0_to_x`). -/
def gmmScaled {α} (P : PPrms α) (vals : List Rat) : List Rat :=
  match P.gmmRescale with
  | none => vals
  | some x => (valids (minmaxScale (vals.map some) none none .doIt)).map (· * x)

/-- `ncomp_from_gmm`: one mixture for each number of components `1 .. min ncomp_max #distinct`. -/
def gmmFits {α} (K : Kern) (P : PPrms α) (vals : List Rat) (m : Nat) : List GmmFit :=
  (List.range (min m (vals.eraseDups).length)).map fun i => K.gmm P.gmmScores (gmmScaled P vals) (i + 1)

/-- `best_gmm`: an unknown mode is only noticed with two or more mixtures. -/
def gmmBest {α} (K : Kern) (P : PPrms α) (abics : List Rat) : Except AmpyErr Nat :=
  if P.gmmMode = "delta" then pure (bestDelta abics P.gmmGain)
  else if P.gmmMode = "prob" then pure (K.bestProb abics P.gmmMinProb)
  else if abics.length ≤ 1 then pure 0
  else throw (.ampy "Unknown mode")

def selIdx {α} (K : Kern) (P : PPrms α) (abics : List Rat) : Nat :=
  if P.gmmMode = "delta" then bestDelta abics P.gmmGain else K.bestProb abics P.gmmMinProb

/-- `ncomp_from_gmm`: the values of component `k`. -/
def compVals (vals : List Rat) (ids : List Nat) (k : Nat) : List Rat :=
  (vals.zip ids).filterMap fun (v, l) => if l = k then some v else none

/-- `ncomp_from_gmm`: the base heights of the `n` components. -/
def compBases {α} (K : Kern) (P : PPrms α) (vals : List Rat) (labels : List Nat) (n : Nat) :
    Except AmpyErr (List Rat) :=
  (List.range n).mapM fun i => calcBase K.pctl (compVals vals labels i) P.lookback P.basePerc

/-- `ncomp_from_gmm` after the choice of the mixture: component bases, re-merge pass, `assert`. -/
def gmmTail {α} (K : Kern) (P : PPrms α) (vals : List Rat) (minSep : Rat) (fits : List GmmFit) (best : Nat) :
    Except AmpyErr (Nat × List Nat) :=
  match fits[best]? with
  | none => throw (.other "IndexError")
  | some f =>
    if best + 1 = 1 then pure (1, f.labels)
    else compBases K P vals f.labels (best + 1) >>= fun bases =>
      let rm := remerge minSep (applyPerm (K.argsort bases) bases) (K.argsort bases) f.labels (best + 1)
      if (rm.1.eraseDups).length ≠ rm.2 then throw (.other "AssertionError") else pure (rm.2, rm.1)

theorem ncompFromGmm_eq {α} (K : Kern) (P : PPrms α) (vals : List Rat) (m : Nat) (minSep : Rat) :
    ncompFromGmm K P vals m minSep =
      if (vals.eraseDups).length = 1 then pure (1, vals.map fun _ => 0)
      else if P.gmmScores ≠ "AIC" ∧ P.gmmScores ≠ "BIC" then throw (.ampy "Unknown scores")
      else gmmBest K P (boostScores (gmmFits K P vals m)) >>= gmmTail K P vals minSep (gmmFits K P vals m) := by
  unfold ncompFromGmm gmmBest
  refine ite_congr rfl (fun _ => rfl) fun _ => ite_congr rfl (fun _ => rfl) fun _ => ?_
  rw [ite_bind, ite_bind, ite_bind]
  rfl

theorem selectedFit_eq {α} (K : Kern) (P : PPrms α) (vals : List Rat) (m : Nat) :
    selectedFit K P vals m =
      ((gmmFits K P vals m)[selIdx K P (boostScores (gmmFits K P vals m))]?).map fun f =>
        (selIdx K P (boostScores (gmmFits K P vals m)) + 1, f) := rfl

/-- `find_layers`: the rows of group `cid`, in the time order returned by the sort. -/
def grpPos {α} (K : Kern) (data : List (Hit α)) (gids : List Int) (cid : Int) : List Nat :=
  (K.dtOrder (data.map (·.dt))).filter fun i => gids[i]? == some cid

theorem groupHeights_eq {α} (K : Kern) (data : List (Hit α)) (gids : List Int) (cid : Int) :
    groupHeights K data gids cid = (grpPos K data gids cid).filterMap fun i => (data[i]?).bind (·.height) := rfl

/-- `find_layers`: the sub-layer ids `off + 10·ind + k` written for the pairs (row, `k`) of `assign`. -/
def writeIds (off : Int) (ind : Nat) (lids : List (Option Int)) (assign : List (Nat × Nat)) :
    List (Option Int) :=
  (List.range lids.length).map fun i =>
    match assign.find? (·.1 = i) with
    | some (_, k) => some (off + 10 * (ind : Int) + (k : Int))
    | none => lids.getD i none

/-- `find_layers`: the decision for one group, independent of the loop state; `none` when it is not examined. -/
def layerDecide {α} (K : Kern) (P : PPrms α) (data : List (Hit α)) (gids : List Int) (g : Row) :
    Except AmpyErr (Option (Nat × List Nat)) :=
  let hs := groupHeights K data gids g.cid
  if decide ((g.okta : Rat) < P.minOktaToSplit) || decide (hs.length < 30) || decide ((hs.eraseDups).length = 1)
  then pure none
  else
    minSepFor P.toPrms g.base >>= fun minSep =>
    ncompFromGmm K P hs (min (hs.eraseDups).length 3) minSep >>= fun r => pure (some r)

/-- `find_layers`: the `ncomp` entry of a decision. -/
def ncompOf : Option (Nat × List Nat) → Int
  | none => -1
  | some (n, _) => n

/-- `find_layers`: component ids are written only when more than one is reported. -/
def splitIds : Option (Nat × List Nat) → Option (List Nat)
  | some (n, ids) => if n > 1 then some ids else none
  | none => none

/-- `find_layers`: the decision for group number `ind`, with rows `pos`, recorded in the loop state. -/
def layerWrite (off : Int) (ind : Nat) (pos : List Nat) (o : Option (Nat × List Nat))
    (st : List (Option Int) × List Int) : List (Option Int) × List Int :=
  ((match splitIds o with
    | some ids => writeIds off ind st.1 (pos.zip ids)
    | none => st.1), st.2 ++ [ncompOf o])

def layerStep {α} (K : Kern) (P : PPrms α) (data : List (Hit α)) (gids : List Int) (groups : Table)
    (st : List (Option Int) × List Int) (ind : Nat) : Except AmpyErr (List (Option Int) × List Int) :=
  match groups[ind]? with
  | none => pure st
  | some g => layerDecide K P data gids g >>= fun o =>
      pure (layerWrite (lidOffset gids) ind (grpPos K data gids g.cid) o st)

theorem layerIds_eq {α} [DecidableEq α] (K : Kern) (P : PPrms α) (data : List (Hit α)) (gids : List Int)
    (groups : Table) :
    layerIds K P data gids groups =
      (List.range groups.length).foldlM (layerStep K P data gids groups) (data.map (fun _ => none), []) >>= fun st =>
        pure (fillIds st.1 gids, st.2) := by
  unfold layerIds
  dsimp only
  congr 2
  funext ⟨lids, ncomps⟩ ind
  unfold layerStep layerDecide
  cases groups[ind]? with
  | none => rfl
  | some g =>
    dsimp only
    rw [ite_bind]
    refine ite_congr rfl (fun _ => rfl) fun _ => ?_
    rw [bind_assoc]
    refine bind_congr fun minSep => ?_
    rw [bind_assoc]
    refine bind_congr fun r => ?_
    obtain ⟨n, ids⟩ := r
    simp only [layerWrite, ncompOf, splitIds, pure_bind]
    split <;> rfl

theorem findSlices_eq {α} [DecidableEq α] (K : Kern) (P : PPrms α) (c : Chunk α) :
    findSlices K P c =
      sliceIds K P c.data >>= fun sids =>
        metarize K.toMetK P.toPrms .slices c.layers.isSome c.data sids >>= fun t =>
          pure { c with sids := some sids, slices := some (carryIsolated c.slices t) } := rfl

theorem findGroups_eq {α} [DecidableEq α] (K : Kern) (P : PPrms α) (c : Chunk α) (sl : Table) (sids : List Int)
    (h1 : c.slices = some sl) (h2 : c.sids = some sids) (h3 : c.layers = none) :
    findGroups K P c =
      groupIds K P c.data sids sl >>= fun r =>
        metarize K.toMetK P.toPrms .groups false c.data r.1 >>= fun t =>
          pure { c with gids := some r.1, slices := some (setIsolated sl r.2), groups := some t } := by
  unfold findGroups
  rw [h1, h2, h3]
  rfl

theorem findLayers_eq {α} [DecidableEq α] (K : Kern) (P : PPrms α) (c : Chunk α) (gr : Table) (gids : List Int)
    (h1 : c.groups = some gr) (h2 : c.gids = some gids) :
    findLayers K P c =
      layerIds K P c.data gids gr >>= fun r =>
        metarize K.toMetK P.toPrms .layers true c.data r.1 >>= fun t =>
          pure { c with lids := some r.1, groups := some (setNcomp gr r.2), layers := some t } := by
  unfold findLayers
  rw [h1, h2]

theorem run_eq {α} [DecidableEq α] (K : Kern) (P : PPrms α) (checked : List (Hit α)) :
    run K P checked = (do
      let d := (crop P.toPrms checked).1
      let sids ← sliceIds K P d
      let sl ← metarize K.toMetK P.toPrms .slices false d sids
      let (gids, iso) ← groupIds K P d sids sl
      let gr ← metarize K.toMetK P.toPrms .groups false d gids
      let (lids, nc) ← layerIds K P d gids gr
      let lay ← metarize K.toMetK P.toPrms .layers true d lids
      pure { data := d, flag := (crop P.toPrms checked).2, sids := some sids, gids := some gids, lids := some lids,
             slices := some (setIsolated sl iso), groups := some (setNcomp gr nc), layers := some lay }) := by
  simp only [run, construct, findSlices, findGroups, findLayers, bind_assoc, pure_bind, carryIsolated,
    Option.isSome_none, Bool.false_eq_true, if_false]

end Ampy
