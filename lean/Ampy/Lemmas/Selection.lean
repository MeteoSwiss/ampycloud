import Ampy.Lemmas.Gmm
import Mathlib.Tactic.Linarith
/-!
In mode `delta`, `best_gmm` never selects a mixture whose score was boosted by `Fix #119` (one with an empty
component), provided the scores are non-negative and the gain is at most `1` (`bestDelta_never_boosted`); the pigeonhole
step; and a witness against dropping each side condition. `C08_selected_populated_delta` composes them into
`SelectedPopulated`.
-/
namespace Ampy
namespace Sel

/-- The fold of `bestDelta` only ever holds an unboosted index. -/
theorem bestDelta_unboosted (fits : List GmmFit) (ab : List Rat) (gain : Rat) (hg1 : gain ≤ 1)
    (hnonneg : ∀ f ∈ fits, 0 ≤ f.score) (h0 : ¬ Boosted fits 0) (hinv : BoostInv fits fits.length ab) :
    ¬ Boosted fits (bestDelta ab gain) := by
  refine bestDelta_induct ab gain (¬ Boosted fits ·) h0 fun best m a b hbest ha hb hlt hBm => ?_
  -- the candidate wins; were it boosted, its score would exceed the unboosted best's by one
  have hm : m + 1 < fits.length := by
    obtain ⟨f, hf, _⟩ := hBm
    exact (List.getElem?_eq_some_iff.mp hf).1
  have hbl : best < fits.length := by
    rw [← hinv.len]
    exact (List.getElem?_eq_some_iff.mp hb).1
  have hg : fits[best]? = some fits[best] := List.getElem?_eq_getElem hbl
  have hk := hinv.keep best _ hbest hg
  rw [hb] at hk
  cases hk
  have h1 := hinv.above (m + 1) hm hBm best hbest a _ ha hg
  have h2 := hnonneg _ (List.mem_of_getElem? hg)
  have h3 : gain * (fits[best]).score ≤ 1 * (fits[best]).score :=
    mul_le_mul_of_nonneg_right hg1 h2
  linarith

/-- Pigeonhole: naturals below `n` with at least `n` distinct values cover `0 .. n-1`. -/
theorem mem_of_eraseDups_length_ge (l : List Nat) (n : Nat) (hlt : ∀ x ∈ l, x < n)
    (hlen : n ≤ (l.eraseDups).length) : ∀ i, i < n → i ∈ l := by
  intro i hi
  rw [eraseDups_length_eq_card] at hlen
  have hsub : l.toFinset ⊆ Finset.range n := by
    intro x hx
    rw [List.mem_toFinset] at hx
    exact Finset.mem_range.mpr (hlt x hx)
  have heq := Finset.eq_of_subset_of_card_le hsub (by rw [Finset.card_range]; exact hlen)
  have : i ∈ l.toFinset := by
    rw [heq]
    exact Finset.mem_range.mpr hi
  exact List.mem_toFinset.mp this

/-- The two mixtures of the witness: both put every point in component `0`. -/
def witnessNeg : List GmmFit := [⟨[0, 0], -1000⟩, ⟨[0, 0], -992⟩]

def witnessGain : List GmmFit := [⟨[0, 0], 10⟩, ⟨[0, 0], 5⟩]

end Sel

/-- With non-negative scores and a gain `≤ 1`, the index `best_gmm` selects in mode `delta` is never one whose score
`Fix #119` boosted (`0 ≤ gain` is not needed). -/
theorem bestDelta_never_boosted (fits : List GmmFit) (gain : Rat) (hg1 : gain ≤ 1)
    (hnonneg : ∀ f ∈ fits, 0 ≤ f.score)
    (h0 : ∀ f, fits[0]? = some f → ¬ ((f.labels.eraseDups).length < 0 + 1)) :
    ∀ f, fits[bestDelta (boostScores fits) gain]? = some f →
      ¬ ((f.labels.eraseDups).length < bestDelta (boostScores fits) gain + 1) := by
  intro f hf hlt
  exact Sel.bestDelta_unboosted fits (boostScores fits) gain hg1 hnonneg
    (fun ⟨g, hg, hl⟩ => h0 g hg hl) (Sel.boostScores_inv fits) ⟨f, hf, hlt⟩

/-- The second mixture, which leaves a component empty, is boosted to `-991` and still selected:
`-991 < 0.95 * -1000`. -/
theorem bestDelta_witnessNeg : bestDelta (boostScores Sel.witnessNeg) (95 / 100) = 1 := by
  decide +kernel

/-- Boosted to `11`, and selected by a gain of `2`: `11 < 2 * 10`. -/
theorem bestDelta_witnessGain : bestDelta (boostScores Sel.witnessGain) 2 = 1 := by
  decide +kernel

/-- The conclusion of `bestDelta_never_boosted` fails for the witness although `0 ≤ gain ≤ 1` and the first mixture is
populated: only `hnonneg` is missing. -/
theorem bestDelta_never_boosted_needs_nonneg :
    (0 : Rat) ≤ 95 / 100 ∧ (95 / 100 : Rat) ≤ 1 ∧ ¬ Sel.Boosted Sel.witnessNeg 0 ∧
    Sel.Boosted Sel.witnessNeg (bestDelta (boostScores Sel.witnessNeg) (95 / 100)) := by
  rw [bestDelta_witnessNeg]
  refine ⟨by decide +kernel, by decide +kernel, ?_, ?_⟩
  · rintro ⟨f, hf, hlt⟩
    cases hf
    revert hlt
    decide
  · exact ⟨⟨[0, 0], -992⟩, rfl, by decide⟩

end Ampy
