import Ampy.Model.Params
/-!
Parameter trees: what `lookup`, `set`, `deepcopy`, `setPath` and `sync` do to the tags.  Tags are followed
kind by kind through `All P Q` (every dict tag satisfies `P`, every list tag `Q`): the result of an operation
satisfies `All P Q` as soon as its arguments do; inclusions between tag lists are instances.
-/
namespace Ampy

/-- No tag of `a` occurs in `b`; `Sys.Sep` puts the dict tags of one root left and all tags of another right. -/
def disjointIds (a b : List Nat) : Prop := ∀ i, i ∈ a → i ∉ b

theorem disjointIds_symm {a b : List Nat} (h : disjointIds a b) : disjointIds b a :=
  fun i hb ha => h i ha hb

mutual
def PTree.listIds : PTree → List Nat
  | .leaf _ => []
  | .list id _ => [id]
  | .dict _ es => es.listIds
def PEntries.listIds : PEntries → List Nat
  | .nil => []
  | .cons _ v rest => v.listIds ++ rest.listIds
end

abbrev PTree.Kinds (t : PTree) : Prop := disjointIds t.dictIds t.listIds

def PTree.isDict : PTree → Bool
  | .dict _ _ => true
  | _ => false

theorem PTree.isDict_false_iff (t : PTree) : t.isDict = false ↔ ∀ i es, t ≠ .dict i es := by
  cases t <;> simp [PTree.isDict]

theorem PTree.isDict_true_iff (t : PTree) : t.isDict = true ↔ ∃ i es, t = .dict i es := by
  cases t <;> simp [PTree.isDict]

mutual
theorem PTree.mem_ids : ∀ (t : PTree) (i : Nat), i ∈ t.ids ↔ i ∈ t.dictIds ∨ i ∈ t.listIds
  | .leaf _, i => by simp [PTree.ids, PTree.dictIds, PTree.listIds]
  | .list _ _, i => by simp [PTree.ids, PTree.dictIds, PTree.listIds]
  | .dict _ es, i => by simp [PTree.ids, PTree.dictIds, PTree.listIds, PEntries.mem_ids es i, or_assoc]
theorem PEntries.mem_ids : ∀ (es : PEntries) (i : Nat), i ∈ es.ids ↔ i ∈ es.dictIds ∨ i ∈ es.listIds
  | .nil, i => by simp [PEntries.ids, PEntries.dictIds, PEntries.listIds]
  | .cons _ v rest, i => by
    simp only [PEntries.ids, PEntries.dictIds, PEntries.listIds, List.mem_append, PTree.mem_ids v i,
      PEntries.mem_ids rest i]
    exact or_or_or_comm
end

theorem PTree.dictIds_sub {t : PTree} {i : Nat} (h : i ∈ t.dictIds) : i ∈ t.ids :=
  (PTree.mem_ids t i).2 (Or.inl h)

theorem PTree.listIds_sub {t : PTree} {i : Nat} (h : i ∈ t.listIds) : i ∈ t.ids :=
  (PTree.mem_ids t i).2 (Or.inr h)

theorem PEntries.ids_split : ∀ (es : PEntries) (i : Nat), i ∈ es.ids → i ∈ es.dictIds ∨ i ∈ es.listIds :=
  fun es i => (PEntries.mem_ids es i).1

def PTree.All (P Q : Nat → Prop) (t : PTree) : Prop := (∀ i ∈ t.dictIds, P i) ∧ ∀ i ∈ t.listIds, Q i
def PEntries.All (P Q : Nat → Prop) (es : PEntries) : Prop := (∀ i ∈ es.dictIds, P i) ∧ ∀ i ∈ es.listIds, Q i

variable {P Q P' Q' : Nat → Prop}

@[simp] theorem PTree.All.leaf (v : PLeaf) : (PTree.leaf v).All P Q := by
  simp [PTree.All, PTree.dictIds, PTree.listIds]

@[simp] theorem PTree.All.list_iff (i : Nat) (xs : List PLeaf) : (PTree.list i xs).All P Q ↔ Q i := by
  simp [PTree.All, PTree.dictIds, PTree.listIds]

@[simp] theorem PTree.All.dict_iff (i : Nat) (es : PEntries) : (PTree.dict i es).All P Q ↔ P i ∧ es.All P Q := by
  simp [PTree.All, PEntries.All, PTree.dictIds, PTree.listIds, and_assoc]

@[simp] theorem PEntries.All.nil : PEntries.nil.All P Q := by
  simp [PEntries.All, PEntries.dictIds, PEntries.listIds]

@[simp] theorem PEntries.All.cons_iff (k : String) (v : PTree) (r : PEntries) :
    (PEntries.cons k v r).All P Q ↔ v.All P Q ∧ r.All P Q := by
  simp only [PEntries.All, PTree.All, PEntries.dictIds, PEntries.listIds, List.mem_append, or_imp, forall_and]
  exact and_and_and_comm

theorem PTree.forall_ids {t : PTree} : (∀ i ∈ t.ids, P i) ↔ t.All P P := by
  simp only [PTree.mem_ids, or_imp, forall_and, PTree.All]

theorem PTree.All.mono {t : PTree} (h : t.All P Q) (hP : ∀ i, P i → P' i) (hQ : ∀ i, Q i → Q' i) : t.All P' Q' :=
  ⟨fun i hi => hP i (h.1 i hi), fun i hi => hQ i (h.2 i hi)⟩

theorem PEntries.All.mono {es : PEntries} (h : es.All P Q) (hP : ∀ i, P i → P' i) (hQ : ∀ i, Q i → Q' i) :
    es.All P' Q' :=
  ⟨fun i hi => hP i (h.1 i hi), fun i hi => hQ i (h.2 i hi)⟩

theorem PTree.All.of_nondict {t : PTree} (hd : t.isDict = false) (h : t.All P' Q) : t.All P Q := by
  cases t with
  | dict i es => cases hd
  | leaf _ => simp
  | list _ _ => simpa using h

theorem PEntries.lookup_cons_none {k0 k : String} {v : PTree} {r : PEntries}
    (h : (PEntries.cons k0 v r).lookup k = none) : k0 ≠ k ∧ r.lookup k = none := by
  simp only [PEntries.lookup] at h
  split at h
  · cases h
  · exact ⟨‹_›, h⟩

theorem PEntries.lookup_set : ∀ (es : PEntries) (k k' : String) (v : PTree),
    (es.set k v).lookup k' = if k = k' then some v else es.lookup k'
  | .nil, k, k', v => by simp [PEntries.set, PEntries.lookup]
  | .cons k0 v0 rest, k, k', v => by
    by_cases h : k0 = k
    · subst h
      by_cases h' : k0 = k' <;> simp [PEntries.set, PEntries.lookup, h']
    · by_cases h' : k0 = k'
      · subst h'
        simp [PEntries.set, PEntries.lookup, h, Ne.symm h]
      · simp [PEntries.set, PEntries.lookup, h, h', PEntries.lookup_set rest k k' v]

theorem PEntries.keys_set : ∀ (es : PEntries) (k : String) (v : PTree), (es.lookup k).isSome = true →
    (es.set k v).keys = es.keys
  | .nil, k, v, h => by simp [PEntries.lookup] at h
  | .cons k0 v0 rest, k, v, h => by
    by_cases hk : k0 = k
    · simp [PEntries.set, PEntries.keys, hk]
    · simp [PEntries.lookup, hk] at h
      simp [PEntries.set, PEntries.keys, hk, PEntries.keys_set rest k v h]

theorem PEntries.lookup_none_iff : ∀ (es : PEntries) (k : String), es.lookup k = none ↔ k ∉ es.keys
  | .nil, k => by simp [PEntries.lookup, PEntries.keys]
  | .cons k0 v0 rest, k => by
    by_cases hk : k0 = k
    · simp [PEntries.lookup, PEntries.keys, hk]
    · simp [PEntries.lookup, PEntries.keys, hk, PEntries.lookup_none_iff rest k, Ne.symm hk]

theorem PEntries.All.lookup : ∀ {es : PEntries} {k : String} {v : PTree}, es.All P Q → es.lookup k = some v → v.All P Q
  | .nil, _, _, _, h => by simp [PEntries.lookup] at h
  | .cons k0 v0 rest, k, v, ha, h => by
    rw [PEntries.All.cons_iff] at ha
    simp only [PEntries.lookup] at h
    split at h
    · cases h; exact ha.1
    · exact ha.2.lookup h

theorem PEntries.All.set : ∀ {es : PEntries} (k : String) {v : PTree}, es.All P Q → v.All P Q → (es.set k v).All P Q
  | .nil, k, v, _, hv => by simp [PEntries.set, hv]
  | .cons k0 v0 rest, k, v, ha, hv => by
    rw [PEntries.All.cons_iff] at ha
    simp only [PEntries.set]
    split
    · simp [hv, ha.2]
    · simp [ha.1, ha.2.set k hv]

theorem PEntries.strip_lookup : ∀ (es : PEntries) (k : String), es.strip.lookup k = (es.lookup k).map PTree.strip
  | .nil, k => rfl
  | .cons k0 v0 rest, k => by
    simp only [PEntries.lookup, PEntries.strip]
    split
    · rfl
    · exact PEntries.strip_lookup rest k

theorem PEntries.strip_set : ∀ (es : PEntries) (k : String) (v : PTree), (es.set k v).strip = es.strip.set k v.strip
  | .nil, k, v => rfl
  | .cons k0 v0 rest, k, v => by
    simp only [PEntries.set, PEntries.strip]
    split
    · rfl
    · rw [PEntries.strip, PEntries.strip_set rest k v]

theorem PTree.strip_isDict (t : PTree) : t.strip.isDict = t.isDict := by cases t <;> rfl

/-- The tags handed out while the counter went from `lo` to `hi`. -/
def Fresh (lo hi i : Nat) : Prop := lo ≤ i ∧ i < hi

theorem Fresh.mono {lo lo' hi hi' i : Nat} (h1 : lo' ≤ lo) (h2 : hi ≤ hi') (h : Fresh lo hi i) : Fresh lo' hi' i :=
  ⟨Nat.le_trans h1 h.1, Nat.lt_of_lt_of_le h.2 h2⟩

mutual
theorem PTree.deepcopy_spec : ∀ (t : PTree) (n : Nat),
    (t.deepcopy n).1.strip = t.strip ∧ n ≤ (t.deepcopy n).2 ∧
    (t.deepcopy n).1.All (Fresh n (t.deepcopy n).2) (Fresh n (t.deepcopy n).2) ∧ (t.deepcopy n).1.Kinds
  | .leaf _, n => by simp [PTree.deepcopy, PTree.dictIds, disjointIds]
  | .list _ _, n => by simp [PTree.deepcopy, PTree.strip, PTree.dictIds, disjointIds, Fresh]
  | .dict _ es, n => by
    obtain ⟨h1, h2, h3, h4⟩ := PEntries.deepcopy_spec es (n + 1)
    simp only [PTree.deepcopy, PTree.strip, h1, PTree.All.dict_iff, PTree.Kinds, PTree.dictIds, PTree.listIds]
    refine ⟨trivial, by omega, ⟨⟨Nat.le_refl n, by omega⟩, ?_⟩, ?_⟩
    · exact PEntries.All.mono h3 (fun _ => Fresh.mono (by omega) (Nat.le_refl _))
        (fun _ => Fresh.mono (by omega) (Nat.le_refl _))
    · intro i hi hl
      rcases List.mem_cons.1 hi with rfl | hi
      · have := (h3.2 _ hl).1; omega
      · exact h4 i hi hl
theorem PEntries.deepcopy_spec : ∀ (es : PEntries) (n : Nat),
    (es.deepcopy n).1.strip = es.strip ∧ n ≤ (es.deepcopy n).2 ∧
    (es.deepcopy n).1.All (Fresh n (es.deepcopy n).2) (Fresh n (es.deepcopy n).2) ∧
    disjointIds (es.deepcopy n).1.dictIds (es.deepcopy n).1.listIds
  | .nil, n => by simp [PEntries.deepcopy, PEntries.dictIds, disjointIds]
  | .cons k v rest, n => by
    obtain ⟨h1, h2, h3, h4⟩ := PTree.deepcopy_spec v n
    obtain ⟨g1, g2, g3, g4⟩ := PEntries.deepcopy_spec rest (v.deepcopy n).2
    simp only [PEntries.deepcopy, PEntries.strip, h1, g1, PEntries.All.cons_iff, PEntries.dictIds, PEntries.listIds]
    refine ⟨trivial, by omega, ⟨?_, ?_⟩, ?_⟩
    · exact PTree.All.mono h3 (fun _ => Fresh.mono (Nat.le_refl _) g2) (fun _ => Fresh.mono (Nat.le_refl _) g2)
    · exact PEntries.All.mono g3 (fun _ => Fresh.mono h2 (Nat.le_refl _)) (fun _ => Fresh.mono h2 (Nat.le_refl _))
    · -- a tag of the copy of `v` is below the counter at which the copy of `rest` starts
      intro i hi hl
      rcases List.mem_append.1 hi with hi | hi <;> rcases List.mem_append.1 hl with hl | hl
      · exact h4 i hi hl
      · have := (h3.1 i hi).2; have := (g3.2 i hl).1; omega
      · have := (g3.1 i hi).1; have := (h3.2 i hl).2; omega
      · exact g4 i hi hl
end

theorem deepcopy_entries_kinds : ∀ (es : PEntries) (n : Nat),
    disjointIds (es.deepcopy n).1.dictIds (es.deepcopy n).1.listIds :=
  fun es n => (PEntries.deepcopy_spec es n).2.2.2

theorem PTree.deepcopy_strip (t : PTree) (n : Nat) : (t.deepcopy n).1.strip = t.strip :=
  (PTree.deepcopy_spec t n).1

theorem PTree.deepcopy_le (t : PTree) (n : Nat) : n ≤ (t.deepcopy n).2 :=
  (PTree.deepcopy_spec t n).2.1

theorem PTree.deepcopy_fresh (t : PTree) (n : Nat) :
    (t.deepcopy n).1.All (Fresh n (t.deepcopy n).2) (Fresh n (t.deepcopy n).2) :=
  (PTree.deepcopy_spec t n).2.2.1

theorem PTree.deepcopy_kinds (t : PTree) (n : Nat) : (t.deepcopy n).1.Kinds :=
  (PTree.deepcopy_spec t n).2.2.2

theorem PEntries.deepcopy_strip (es : PEntries) (n : Nat) : (es.deepcopy n).1.strip = es.strip :=
  (PEntries.deepcopy_spec es n).1

theorem PTree.getPath_nil (t : PTree) : t.getPath [] = some t := by
  cases t <;> simp [PTree.getPath]

theorem PTree.getPath_dict (i : Nat) (es : PEntries) (k : String) : (PTree.dict i es).getPath [k] = es.lookup k := by
  cases h : es.lookup k <;> simp [PTree.getPath, h]

theorem PTree.setPath_dict (i : Nat) (es : PEntries) (k : String) (v : PTree) :
    (PTree.dict i es).setPath [k] v = some (.dict i (es.set k v)) := rfl

theorem PTree.All.getPath_one {t v : PTree} {k : String} (ht : t.All P Q) (h : t.getPath [k] = some v) :
    v.All P Q := by
  cases t with
  | leaf _ => simp [PTree.getPath] at h
  | list _ _ => simp [PTree.getPath] at h
  | dict d es =>
    rw [PTree.getPath_dict] at h
    exact ((PTree.All.dict_iff ..).1 ht).2.lookup h

theorem PTree.All.setPath : ∀ {p : List String} {t v t' : PTree}, t.All P Q → v.All P Q →
    t.setPath p v = some t' → t'.All P Q
  | [], t, v, t', _, _, h => by simp [PTree.setPath] at h
  | _ :: _, .leaf _, v, t', _, _, h => by simp [PTree.setPath] at h
  | _ :: _, .list _ _, v, t', _, _, h => by simp [PTree.setPath] at h
  | [k], .dict d es, v, t', ht, hv, h => by
    rw [PTree.All.dict_iff] at ht
    simp only [PTree.setPath, Option.some.injEq] at h
    subst h
    simp [ht.1, ht.2.set k hv]
  | k :: k2 :: ks, .dict d es, v, t', ht, hv, h => by
    rw [PTree.All.dict_iff] at ht
    cases hl : es.lookup k with
    | none => simp [PTree.setPath, hl] at h
    | some sub =>
      simp only [PTree.setPath, hl, Option.map_eq_some_iff] at h
      obtain ⟨sub', hs, rfl⟩ := h
      simp [ht.1, ht.2.set k ((ht.2.lookup hl).setPath hv hs)]

theorem PTree.setPath_kinds {p : List String} {t v t' : PTree} (ht : t.Kinds) (hv : v.Kinds)
    (htv : disjointIds t.ids v.ids) (h : t.setPath p v = some t') : t'.Kinds := by
  have ha := PTree.All.setPath (P := fun i => i ∈ t.dictIds ∨ i ∈ v.dictIds)
    (Q := fun i => i ∈ t.listIds ∨ i ∈ v.listIds) ⟨fun _ => Or.inl, fun _ => Or.inl⟩
    ⟨fun _ => Or.inr, fun _ => Or.inr⟩ h
  intro i hd hl
  rcases ha.1 i hd with hd | hd <;> rcases ha.2 i hl with hl | hl
  · exact ht i hd hl
  · exact htv i (PTree.dictIds_sub hd) (PTree.listIds_sub hl)
  · exact htv i (PTree.listIds_sub hl) (PTree.dictIds_sub hd)
  · exact hv i hd hl

theorem PTree.pathDictId_mem : ∀ (p : List String) (t : PTree) (i : Nat), t.pathDictId p = some i →
    i ∈ t.dictIds
  | [], t, i, h => by simp [PTree.pathDictId] at h
  | k :: ks, .leaf _, i, h => by simp [PTree.pathDictId] at h
  | k :: ks, .list _ _, i, h => by simp [PTree.pathDictId] at h
  | [k], .dict d es, i, h => by
    simp only [PTree.pathDictId, Option.some.injEq] at h
    simp [PTree.dictIds, h]
  | k :: k2 :: ks, .dict d es, i, h => by
    cases hl : es.lookup k with
    | none => simp [PTree.pathDictId, hl] at h
    | some sub =>
      simp only [PTree.pathDictId, hl, Option.bind_some] at h
      have hs : sub.All (· ∈ es.dictIds) (fun _ => True) :=
        PEntries.All.lookup ⟨fun _ h => h, fun _ _ => trivial⟩ hl
      simp only [PTree.dictIds, List.mem_cons]
      exact Or.inr (hs.1 i (PTree.pathDictId_mem (k2 :: ks) sub i h))

theorem pathDictId_disj_of_ids {t : PTree} {p : List String} {id : Nat} {B : List Nat}
    (h : t.pathDictId p = some id) (hd : disjointIds t.dictIds B) : disjointIds [id] B := by
  intro i hi
  rw [List.mem_singleton] at hi; subst hi
  exact hd i (PTree.pathDictId_mem p t i h)

mutual
theorem sync_of_disjoint (src : PTree) (ids : List Nat) (t : PTree) (h : disjointIds ids t.ids) :
    PTree.sync src ids t = t :=
  match t, h with
  | .leaf _, _ => by simp [PTree.sync]
  | .list i items, h => by
    have : i ∉ ids := fun hi => h i hi (by simp [PTree.ids])
    simp [PTree.sync, this]
  | .dict i es, h => by
    have : i ∉ ids := fun hi => h i hi (by simp [PTree.ids])
    have he := sync_entries_of_disjoint src ids es (fun j hj hm => h j hj (by simp [PTree.ids, hm]))
    simp [PTree.sync, this, he]
theorem sync_entries_of_disjoint (src : PTree) (ids : List Nat) : ∀ (es : PEntries), disjointIds ids es.ids →
    PEntries.sync src ids es = es
  | .nil, _ => by simp [PEntries.sync]
  | .cons k v rest, h => by
    have hv := sync_of_disjoint src ids v (fun j hj hm => h j hj (by simp [PEntries.ids, hm]))
    have hr := sync_entries_of_disjoint src ids rest (fun j hj hm => h j hj (by simp [PEntries.ids, hm]))
    simp [PEntries.sync, hv, hr]
end

/-- An in-place edit below `t` does not show in a tree that shares no dict node with `t`. -/
theorem sync_path_eq_self {t x : PTree} {p : List String} {id : Nat} (src : PTree) (hid : t.pathDictId p = some id)
    (h : disjointIds t.dictIds x.ids) : PTree.sync src [id] x = x :=
  sync_of_disjoint src [id] x (pathDictId_disj_of_ids hid h)

end Ampy
