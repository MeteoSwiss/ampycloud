import Ampy.Model.Metar
import Ampy.Lemmas.Wmo
import Mathlib.Tactic.NormNum
import Batteries.Data.List.Lemmas
import Ampy.Lemmas.Sat
namespace Ampy

/-- Folding a selector (`f a b` is `a` or `b`, and `r`-below both) over a list picks an element that is
`r`-below all of them.  `minRat` is the case `r = (· ≤ ·)`, `maxRat` the case `r = (· ≥ ·)`. -/
theorem foldl_select {β} {f : β → β → β} {r : β → β → Prop} (hrefl : ∀ a, r a a)
    (htrans : ∀ a b c, r a b → r b c → r a c)
    (hf : ∀ a b, (f a b = a ∨ f a b = b) ∧ r (f a b) a ∧ r (f a b) b) (xs : List β) (x : β) :
    xs.foldl f x ∈ x :: xs ∧ ∀ y ∈ x :: xs, r (xs.foldl f x) y := by
  constructor
  · refine List.foldlRecOn xs f List.mem_cons_self fun m hm a ha => ?_
    rcases (hf m a).1 with e | e
    · rw [e]; exact hm
    · rw [e]; exact List.mem_cons_of_mem _ ha
  · induction xs generalizing x with
    | nil => simpa using hrefl x
    | cons z zs ih =>
      intro y hy
      have h0 := ih (f x z) _ List.mem_cons_self
      rw [List.foldl_cons]
      rcases List.mem_cons.mp hy with rfl | hy
      · exact htrans _ _ _ h0 (hf y z).2.1
      · rcases List.mem_cons.mp hy with rfl | hy
        · exact htrans _ _ _ h0 (hf x y).2.2
        · exact ih (f x z) y (List.mem_cons_of_mem _ hy)

theorem minRat_spec {l : List Rat} (h : l ≠ []) : minRat l ∈ l ∧ ∀ y ∈ l, minRat l ≤ y := by
  obtain ⟨a, as, rfl⟩ := List.exists_cons_of_ne_nil h
  refine foldl_select (r := (· ≤ ·)) (fun _ => Rat.le_refl) (fun _ _ _ => Rat.le_trans) (fun a b => ?_) as a
  by_cases hba : b < a
  · rw [if_pos hba]; exact ⟨.inr rfl, hba.le, Rat.le_refl⟩
  · rw [if_neg hba]; exact ⟨.inl rfl, Rat.le_refl, not_lt.mp hba⟩

theorem maxRat_spec {l : List Rat} (h : l ≠ []) : maxRat l ∈ l ∧ ∀ y ∈ l, y ≤ maxRat l := by
  obtain ⟨a, as, rfl⟩ := List.exists_cons_of_ne_nil h
  refine foldl_select (r := (· ≥ ·)) (fun _ => Rat.le_refl) (fun _ _ _ h₁ h₂ => Rat.le_trans h₂ h₁)
    (fun a b => ?_) as a
  by_cases hab : a < b
  · rw [if_pos hab]; exact ⟨.inr rfl, hab.le, Rat.le_refl⟩
  · rw [if_neg hab]; exact ⟨.inl rfl, Rat.le_refl, not_lt.mp hab⟩

theorem minRat_le {l : List Rat} {x : Rat} (h : x ∈ l) : minRat l ≤ x :=
  (minRat_spec (List.ne_nil_of_mem h)).2 x h

theorem le_maxRat {l : List Rat} {x : Rat} (h : x ∈ l) : x ≤ maxRat l :=
  (maxRat_spec (List.ne_nil_of_mem h)).2 x h

theorem minRat_mem {l : List Rat} (h : l ≠ []) : minRat l ∈ l := (minRat_spec h).1

theorem maxRat_mem {l : List Rat} (h : l ≠ []) : maxRat l ∈ l := (maxRat_spec h).1

theorem leRat_trans (a b c : Rat) : leRat a b = true → leRat b c = true → leRat a c = true := by
  unfold leRat
  simp only [decide_eq_true_eq]
  exact Rat.le_trans

theorem leRat_total (a b : Rat) : (leRat a b || leRat b a) = true := by
  unfold leRat
  simp only [Bool.or_eq_true, decide_eq_true_eq]
  exact Rat.le_total

theorem sort_pairwise (vals : List Rat) : (vals.mergeSort leRat).Pairwise (· ≤ ·) := by
  have h := List.pairwise_mergeSort (le := leRat) leRat_trans leRat_total vals
  refine h.imp ?_
  intro a b hab
  simpa [leRat] using hab

def pctlSorted (s : List Rat) (q : Rat) : Rat :=
  let pos := q / 100 * ((s.length : Rat) - 1)
  let lo := pos.floor.toNat
  let fr := pos - (lo : Rat)
  match s[lo]?, s[lo + 1]? with
  | some a, some b => a + fr * (b - a)
  | some a, none => a
  | none, _ => 0

theorem percentile_eq (vals : List Rat) (q : Rat) :
    percentile vals q = pctlSorted (vals.mergeSort leRat) q := rfl

theorem interp_between {a b fr : Rat} (hab : a ≤ b) (h0 : 0 ≤ fr) (h1 : fr ≤ 1) :
    a ≤ a + fr * (b - a) ∧ a + fr * (b - a) ≤ b :=
  ⟨le_add_of_nonneg_right (mul_nonneg h0 (sub_nonneg.mpr hab)),
   le_sub_iff_add_le'.mp (mul_le_of_le_one_left (sub_nonneg.mpr hab) h1)⟩

theorem floor_toNat {x : Rat} (h0 : 0 ≤ x) :
    ((x.floor.toNat : Nat) : Rat) ≤ x ∧ x < ((x.floor.toNat : Nat) : Rat) + 1 := by
  have hc : ((x.floor.toNat : Nat) : Rat) = ((x.floor : Int) : Rat) := by
    rw [← Int.toNat_of_nonneg (Rat.le_floor_iff.mpr (by simpa using h0)), Int.cast_natCast, Int.toNat_natCast]
  rw [hc]
  exact ⟨Rat.floor_le x, by simpa using Rat.lt_floor_add_one x⟩

theorem pctlSorted_between (s : List Rat) (hs : s.Pairwise (· ≤ ·)) (hne : s ≠ [])
    (q : Rat) (h0 : 0 ≤ q) (h1 : q ≤ 100) :
    ∃ (i : Nat) (hi : i < s.length) (j : Nat) (hj : j < s.length),
      j ≤ i + 1 ∧ s[i] ≤ pctlSorted s q ∧ pctlSorted s q ≤ s[j] := by
  have hn : (1 : Rat) ≤ (s.length : Rat) := by exact_mod_cast List.length_pos_iff.mpr hne
  unfold pctlSorted
  simp only
  generalize hpos : q / 100 * ((s.length : Rat) - 1) = pos
  have hpos0 : 0 ≤ pos := hpos ▸ mul_nonneg (div_nonneg h0 (by norm_num)) (sub_nonneg.mpr hn)
  have hposn : pos ≤ (s.length : Rat) - 1 :=
    hpos ▸ mul_le_of_le_one_left (sub_nonneg.mpr hn) ((div_le_one (by norm_num)).mpr h1)
  obtain ⟨hfl, hfl2⟩ := floor_toNat hpos0
  have hlo : pos.floor.toNat < s.length := by
    exact_mod_cast lt_of_le_of_lt (hfl.trans hposn) (sub_one_lt _)
  rw [List.getElem?_eq_getElem hlo]
  by_cases hlo1 : pos.floor.toNat + 1 < s.length
  · rw [List.getElem?_eq_getElem hlo1]
    have := interp_between (List.pairwise_iff_getElem.mp hs _ _ hlo hlo1 (Nat.lt_succ_self _))
      (sub_nonneg.mpr hfl) (sub_lt_iff_lt_add'.mpr hfl2).le
    exact ⟨_, hlo, _, hlo1, Nat.le_refl _, this⟩
  · rw [List.getElem?_eq_none (by omega)]
    exact ⟨_, hlo, _, hlo, Nat.le_succ _, Rat.le_refl, Rat.le_refl⟩

theorem mergeSort_perm_eq {l₁ l₂ : List Rat} (h : l₁.Perm l₂) :
    l₁.mergeSort leRat = l₂.mergeSort leRat := by
  have p : (l₁.mergeSort leRat).Perm (l₂.mergeSort leRat) :=
    ((List.mergeSort_perm l₁ leRat).trans h).trans (List.mergeSort_perm l₂ leRat).symm
  refine List.Perm.eq_of_pairwise (le := fun a b : Rat => a ≤ b) ?_ (sort_pairwise l₁) (sort_pairwise l₂) p
  intro a b _ _ hab hba
  exact Rat.le_antisymm hab hba

theorem latest_suffix (vals : List Rat) (lb : Rat) : (latest vals lb) <:+ vals := by
  unfold latest
  simp only
  split
  · exact List.suffix_refl _
  · exact List.drop_suffix _ _

/-- Python's `vals[-0:]` is the whole array: a look-back that rounds to no value keeps them all, so the selection
of a non-empty array is never empty. -/
theorem latest_eq_nil (vals : List Rat) (lb : Rat) : latest vals lb = [] ↔ vals = [] := by
  refine ⟨fun hd => ?_, fun h => List.eq_nil_of_suffix_nil (h ▸ latest_suffix vals lb)⟩
  unfold latest at hd
  simp only at hd
  split at hd
  · exact hd
  · rename_i hk
    have := List.drop_eq_nil_iff.mp hd
    exact List.length_eq_zero_iff.mp (by omega)

/-- `calc_base_height` raises its `AmpycloudError` exactly on an empty array. -/
theorem calcBase_sat (pctl : List Rat → Rat → Rat) (vals : List Rat) (lb q : Rat) :
    Sat (calcBase pctl vals lb q) (fun b => vals ≠ [] ∧ b = pctl (latest vals lb) q)
      (fun e => vals = [] ∧ e = .ampy "Cloud base calculation got an empty array") := by
  unfold calcBase
  simp only [List.length_eq_zero_iff, latest_eq_nil]
  split
  · exact ⟨‹_›, rfl⟩
  · exact ⟨‹_›, rfl⟩

theorem lookbackCount_full (n : Nat) : lookbackCount n 100 = n := by
  unfold lookbackCount
  rw [mul_div_cancel_right₀ _ (by norm_num : (100 : Rat) ≠ 0), ← Int.cast_natCast, Rat.floor_intCast]
  simp

theorem latest_full (vals : List Rat) : latest vals 100 = vals := by
  unfold latest
  simp only [lookbackCount_full]
  split
  · rfl
  · simp

theorem calcBase_between (pctl : List Rat → Rat → Rat) (vals : List Rat) (lb q : Rat) (hne : vals ≠ [])
    (hp : ∀ l, l ≠ [] → minRat l ≤ pctl l q ∧ pctl l q ≤ maxRat l) :
    ∃ b, calcBase pctl vals lb q = .ok b ∧ minRat vals ≤ b ∧ b ≤ maxRat vals := by
  have hsel := mt (latest_eq_nil vals lb).mp hne
  have hsuf := latest_suffix vals lb
  obtain ⟨b, hb, -, rfl⟩ := (calcBase_sat pctl vals lb q).exists_ok fun _ he => hne he.1
  exact ⟨_, hb, Rat.le_trans (minRat_le (hsuf.subset (minRat_mem hsel))) (hp _ hsel).1,
    Rat.le_trans (hp _ hsel).2 (le_maxRat (hsuf.subset (maxRat_mem hsel)))⟩

theorem absRat_eq_abs (x : Rat) : absRat x = |x| := by
  unfold absRat
  split
  · exact (abs_of_neg ‹_›).symm
  · exact (abs_of_nonneg (not_lt.mp ‹_›)).symm

theorem absRat_nonneg (x : Rat) : 0 ≤ absRat x := by
  rw [absRat_eq_abs]; exact abs_nonneg x

theorem foldl_add_nonneg (l : List Rat) (x : Rat) (hx : 0 ≤ x) (h : ∀ y ∈ l, 0 ≤ y) :
    0 ≤ l.foldl (· + ·) x := by
  induction l generalizing x with
  | nil => simpa using hx
  | cons z zs ih =>
    simp only [List.foldl_cons]
    exact ih _ (add_nonneg hx (h z List.mem_cons_self)) fun y hy => h y (List.mem_cons_of_mem _ hy)

theorem meanRat_nonneg (l : List Rat) (h : ∀ y ∈ l, 0 ≤ y) : 0 ≤ meanRat l := by
  unfold meanRat sumRat
  exact div_nonneg (foldl_add_nonneg l 0 (le_refl _) h) (Nat.cast_nonneg _)

theorem fluffiness_nonneg (K : MetK) (pts : List (Rat × Rat)) : 0 ≤ fluffiness K pts := by
  unfold fluffiness
  split
  · exact le_refl _
  · simp only
    apply mul_nonneg (by norm_num)
    apply meanRat_nonneg
    intro y hy
    obtain ⟨p, _, rfl⟩ := List.mem_map.mp hy
    exact absRat_nonneg _

theorem thickness_nonneg (l : List Rat) : 0 ≤ maxRat l - minRat l := by
  by_cases h : l = []
  · subst h
    simp [maxRat, minRat]
  · exact sub_nonneg.mpr (le_maxRat (minRat_mem h))

theorem sortedRat_iff (l : List Rat) : sortedRat l = true ↔ l.Pairwise (· ≤ ·) := by
  rw [← List.isChain_iff_pairwise]
  induction l with
  | nil => simp [sortedRat]
  | cons a l ih =>
    cases l with
    | nil => simp [sortedRat]
    | cons b r => rw [sortedRat, Bool.and_eq_true, decide_eq_true_eq, ih, List.isChain_cons_cons]

end Ampy
