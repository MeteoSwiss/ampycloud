import Ampy.Lemmas.ParamsStep
/-!
Object identities in the parameter world (C11).  `Sys.Inv` is inductive because an operation rewrites one root only,
with a tree made of that root's nodes and fresh ones (`GrownFrom`; a new snapshot may also take list nodes of a
caller), and because under `Sep` the propagation of an edit (`syncAll`) changes no other root.  Iterate with `step_inv`
/ `run_inv`; `WF ∧ Sep` without `Kinds` is not inductive (`step_wf_sep_false`).  The parameter strand is core Lean only,
so its list facts stand here and not in `ListFacts` (Mathlib).
-/
namespace Ampy

structure Sys.WF (s : Sys) : Prop where
  global : ∀ i ∈ s.global.ids, i < s.next
  callers : ∀ t ∈ s.callers, ∀ i ∈ t.ids, i < s.next
  snaps : ∀ t ∈ s.snaps, ∀ i ∈ t.ids, i < s.next

/-- Separation: the global shares no mutable node with any snapshot or caller dictionary; two snapshots, and a
snapshot and a caller, share no *dict* node (a snapshot stores the caller's list objects themselves: a real alias,
outside what C11 claims); two callers share nothing (`cc`).  `ss`, `cc` go by position: equal trees at two positions
are two roots. -/
structure Sys.Sep (s : Sys) : Prop where
  gs : ∀ t ∈ s.snaps, disjointIds s.global.ids t.ids
  gc : ∀ t ∈ s.callers, disjointIds s.global.ids t.ids
  ss : ∀ (i j : Nat) (ti tj : PTree), i ≠ j → s.snaps[i]? = some ti → s.snaps[j]? = some tj → disjointIds ti.dictIds tj.ids
  sc : ∀ t ∈ s.snaps, ∀ c ∈ s.callers, disjointIds t.dictIds c.ids ∧ disjointIds c.dictIds t.ids
  cc : ∀ (i j : Nat) (ti tj : PTree), i ≠ j → s.callers[i]? = some ti → s.callers[j]? = some tj → disjointIds ti.ids tj.ids

/-- The world after import.  `Driver/Sys.lean` (`handleSys`) starts its replay from the same term, written out there
(the driver imports the model only).  No theorem depends on the counter starting at 1. -/
def Sys.init (defaults : PTree) : Sys :=
  let (g, n) := defaults.deepcopy 1
  { next := n, global := g, defaults := defaults, callers := [], snaps := [] }

def Sys.Kinds (s : Sys) : Prop := ∀ c ∈ s.callers, disjointIds c.dictIds c.listIds

/-- `Kinds` is what makes `WF ∧ Sep` inductive. -/
structure Sys.Inv (s : Sys) : Prop where
  wf : s.WF
  sep : s.Sep
  kinds : s.Kinds

section lists
variable {α : Type} {p : α → Prop} {R : α → α → Prop} {l : List α} {j : Nat} {t x : α}

theorem forall_mem_set (h : ∀ y ∈ l, p y) (hx : p x) : ∀ y ∈ l.set j x, p y :=
  fun y hy => (List.mem_or_eq_of_mem_set hy).elim (h y) (· ▸ hx)

theorem forall_mem_concat (h : ∀ y ∈ l, p y) (hx : p x) : ∀ y ∈ l ++ [x], p y :=
  List.forall_mem_append.2 ⟨h, List.forall_mem_singleton.2 hx⟩

theorem getElem?_set_cases {α} {l : List α} {j a : Nat} {x y : α} (h : (l.set j x)[a]? = some y) :
    (a = j ∧ y = x) ∨ (a ≠ j ∧ l[a]? = some y) := by
  rw [List.getElem?_set] at h
  split at h
  · split at h
    · cases h; exact Or.inl ⟨by omega, rfl⟩
    · cases h
  · exact Or.inr ⟨by omega, h⟩

theorem getElem?_append_single {α} {l : List α} {a : Nat} {x y : α} (h : (l ++ [x])[a]? = some y) :
    l[a]? = some y ∨ (a = l.length ∧ y = x) := by
  rw [List.getElem?_append] at h
  split at h
  · exact Or.inl h
  · rw [List.getElem?_singleton] at h
    split at h
    · cases h; exact Or.inr ⟨by omega, rfl⟩
    · cases h

/-- Values at two distinct positions are related.  `Sys.Sep.ss` and `Sys.Sep.cc` unfold to this: `hs.ss`, `hs.cc` are
used as `PairwiseAt` facts by definitional unfolding. -/
def PairwiseAt (R : α → α → Prop) (l : List α) : Prop :=
  ∀ (i j : Nat) (a b : α), i ≠ j → l[i]? = some a → l[j]? = some b → R a b

theorem PairwiseAt.nil : PairwiseAt R [] := fun _ _ _ _ _ h => by simp at h

theorem PairwiseAt.singleton (x : α) : PairwiseAt R [x] := by
  intro i j a b hij hi hj
  have := (List.getElem?_eq_some_iff.1 hi).1
  have := (List.getElem?_eq_some_iff.1 hj).1
  simp only [List.length_singleton] at *
  omega

theorem PairwiseAt.set (h : PairwiseAt R l) (ht : l[j]? = some t) (h1 : ∀ y ∈ l, R t y → R x y)
    (h2 : ∀ y ∈ l, R y t → R y x) : PairwiseAt R (l.set j x) := by
  intro a b ya yb hab ha hb
  rcases getElem?_set_cases ha with ⟨rfl, rfl⟩ | ⟨ha1, ha2⟩ <;>
    rcases getElem?_set_cases hb with ⟨rfl, rfl⟩ | ⟨hb1, hb2⟩
  · exact absurd rfl hab
  · exact h1 _ (List.mem_of_getElem? hb2) (h _ _ _ _ hab ht hb2)
  · exact h2 _ (List.mem_of_getElem? ha2) (h _ _ _ _ hab ha2 ht)
  · exact h _ _ _ _ hab ha2 hb2

theorem PairwiseAt.concat (h : PairwiseAt R l) (h1 : ∀ y ∈ l, R x y) (h2 : ∀ y ∈ l, R y x) :
    PairwiseAt R (l ++ [x]) := by
  intro a b ya yb hab ha hb
  rcases getElem?_append_single ha with ha' | ⟨rfl, rfl⟩ <;>
    rcases getElem?_append_single hb with hb' | ⟨rfl, rfl⟩
  · exact h _ _ _ _ hab ha' hb'
  · exact h2 _ (List.mem_of_getElem? ha')
  · exact h1 _ (List.mem_of_getElem? hb')
  · exact absurd rfl hab

theorem set_map_eq_set (f : α → α) (l : List α) (j : Nat) (x : α)
    (h : ∀ a y, a ≠ j → l[a]? = some y → f y = y) : (l.map f).set j x = l.set j x := by
  apply List.ext_getElem?
  intro a
  rw [List.getElem?_set, List.getElem?_set, List.length_map]
  by_cases hja : j = a
  · rw [if_pos hja, if_pos hja]
  · rw [if_neg hja, if_neg hja, List.getElem?_map]
    cases hl : l[a]? with
    | none => rfl
    | some y => simp [h a y (Ne.symm hja) hl]

end lists

def PTree.GrownFrom (t' t : PTree) (lo hi : Nat) : Prop :=
  t'.All (fun i => i ∈ t.dictIds ∨ Fresh lo hi i) (fun i => i ∈ t.listIds ∨ Fresh lo hi i)

theorem PTree.GrownFrom.refl (t : PTree) (lo hi : Nat) : t.GrownFrom t lo hi :=
  ⟨fun _ => Or.inl, fun _ => Or.inl⟩

theorem PTree.GrownFrom.of_fresh {c t : PTree} {lo hi : Nat} (h : c.All (Fresh lo hi) (Fresh lo hi)) :
    c.GrownFrom t lo hi :=
  h.mono (fun _ => Or.inr) (fun _ => Or.inr)

theorem PTree.GrownFrom.ids {t' t : PTree} {lo hi : Nat} (h : t'.GrownFrom t lo hi) :
    ∀ i ∈ t'.ids, i ∈ t.ids ∨ Fresh lo hi i :=
  PTree.forall_ids.2 (h.mono (fun _ => Or.imp_left PTree.dictIds_sub) (fun _ => Or.imp_left PTree.listIds_sub))

theorem PTree.GrownFrom.setPath {p : List String} {t v t' : PTree} {lo hi : Nat}
    (hv : v.All (Fresh lo hi) (Fresh lo hi)) (h : t.setPath p v = some t') : t'.GrownFrom t lo hi :=
  PTree.All.setPath (PTree.GrownFrom.refl t lo hi) (PTree.GrownFrom.of_fresh hv) h

theorem disj_grow_left {A B A' : List Nat} {n n1 : Nat} (h : disjointIds A B) (hB : ∀ i ∈ B, i < n)
    (hA' : ∀ i ∈ A', i ∈ A ∨ Fresh n n1 i) : disjointIds A' B := by
  intro i hi hb
  rcases hA' i hi with h1 | h1
  · exact h i h1 hb
  · have := hB i hb; have := h1.1; omega

theorem disj_grow_right {A B B' : List Nat} {n n1 : Nat} (h : disjointIds A B) (hA : ∀ i ∈ A, i < n)
    (hB' : ∀ i ∈ B', i ∈ B ∨ Fresh n n1 i) : disjointIds A B' :=
  disjointIds_symm (disj_grow_left (disjointIds_symm h) hA hB')

theorem lt_of_grow {A A' : List Nat} {n n1 : Nat} (hn : n ≤ n1) (hA : ∀ i ∈ A, i < n)
    (h : ∀ i ∈ A', i ∈ A ∨ Fresh n n1 i) : ∀ i ∈ A', i < n1 :=
  fun i hi => (h i hi).elim (fun h => Nat.lt_of_lt_of_le (hA i h) hn) (·.2)

theorem Sys.WF.lt_of_le {s : Sys} (hw : s.WF) {n1 : Nat} (hn : s.next ≤ n1) :
    (∀ i ∈ s.global.ids, i < n1) ∧ (∀ t ∈ s.callers, ∀ i ∈ t.ids, i < n1) ∧ (∀ t ∈ s.snaps, ∀ i ∈ t.ids, i < n1) :=
  ⟨fun i hi => Nat.lt_of_lt_of_le (hw.global i hi) hn, fun t ht i hi => Nat.lt_of_lt_of_le (hw.callers t ht i hi) hn,
    fun t ht i hi => Nat.lt_of_lt_of_le (hw.snaps t ht i hi) hn⟩

theorem dict_lt {x : PTree} {n : Nat} (hx : ∀ i ∈ x.ids, i < n) : ∀ i ∈ x.dictIds, i < n :=
  fun i hi => hx i (PTree.dictIds_sub hi)

section updates
variable {s : Sys} {j n1 : Nat} {g t t' : PTree}

theorem Sys.Inv.replaceGlobal (h : s.Inv) (hn : s.next ≤ n1) (hg : g.GrownFrom s.global s.next n1) :
    ({ s with next := n1, global := g } : Sys).Inv := by
  obtain ⟨hw, hs, hk⟩ := h
  obtain ⟨-, wc, wsn⟩ := hw.lt_of_le hn
  exact ⟨⟨lt_of_grow hn hw.global hg.ids, wc, wsn⟩,
    ⟨fun t ht => disj_grow_left (hs.gs t ht) (hw.snaps t ht) hg.ids,
      fun t ht => disj_grow_left (hs.gc t ht) (hw.callers t ht) hg.ids, hs.ss, hs.sc, hs.cc⟩, hk⟩

theorem Sys.Inv.replaceSnap (h : s.Inv) (hn : s.next ≤ n1) (ht : s.snaps[j]? = some t)
    (ht' : t'.GrownFrom t s.next n1) : ({ s with next := n1, snaps := s.snaps.set j t' } : Sys).Inv := by
  obtain ⟨hw, hs, hk⟩ := h
  obtain ⟨wg, wc, wsn⟩ := hw.lt_of_le hn
  have htm : t ∈ s.snaps := List.mem_of_getElem? ht
  refine ⟨⟨wg, wc, forall_mem_set wsn (lt_of_grow hn (hw.snaps t htm) ht'.ids)⟩,
    ⟨forall_mem_set hs.gs (disj_grow_right (hs.gs t htm) hw.global ht'.ids), hs.gc, ?_, ?_, hs.cc⟩, hk⟩
  · exact PairwiseAt.set hs.ss ht (fun y hy h => disj_grow_left h (hw.snaps y hy) ht'.1)
      (fun y hy h => disj_grow_right h (dict_lt (hw.snaps y hy)) ht'.ids)
  · exact forall_mem_set hs.sc fun c hc => ⟨disj_grow_left (hs.sc t htm c hc).1 (hw.callers c hc) ht'.1,
      disj_grow_right (hs.sc t htm c hc).2 (dict_lt (hw.callers c hc)) ht'.ids⟩

theorem Sys.Inv.replaceCaller (h : s.Inv) (hn : s.next ≤ n1) (ht : s.callers[j]? = some t)
    (ht' : t'.GrownFrom t s.next n1) (hk' : t'.Kinds) :
    ({ s with next := n1, callers := s.callers.set j t' } : Sys).Inv := by
  obtain ⟨hw, hs, hk⟩ := h
  obtain ⟨wg, wc, wsn⟩ := hw.lt_of_le hn
  have htm : t ∈ s.callers := List.mem_of_getElem? ht
  refine ⟨⟨wg, forall_mem_set wc (lt_of_grow hn (hw.callers t htm) ht'.ids), wsn⟩,
    ⟨hs.gs, forall_mem_set hs.gc (disj_grow_right (hs.gc t htm) hw.global ht'.ids), hs.ss, ?_, ?_⟩,
    forall_mem_set hk hk'⟩
  · exact fun x hx => forall_mem_set (hs.sc x hx)
      ⟨disj_grow_right (hs.sc x hx t htm).1 (dict_lt (hw.snaps x hx)) ht'.ids,
        disj_grow_left (hs.sc x hx t htm).2 (hw.snaps x hx) ht'.1⟩
  · exact PairwiseAt.set hs.cc ht (fun y hy h => disj_grow_left h (hw.callers y hy) ht'.ids)
      (fun y hy h => disj_grow_right h (hw.callers y hy) ht'.ids)

theorem Sys.Inv.appendCaller (h : s.Inv) (hn : s.next ≤ n1) (hf : t'.All (Fresh s.next n1) (Fresh s.next n1))
    (hk' : t'.Kinds) :
    ({ s with next := n1, callers := s.callers ++ [t'] } : Sys).Inv := by
  obtain ⟨hw, hs, hk⟩ := h
  obtain ⟨wg, wc, wsn⟩ := hw.lt_of_le hn
  have hi := PTree.forall_ids.2 hf
  have fr : ∀ A : List Nat, (∀ i ∈ A, i < s.next) → disjointIds A t'.ids :=
    fun A hA i h1 h2 => by have := hA i h1; have := (hi i h2).1; omega
  refine ⟨⟨wg, forall_mem_concat wc fun i h => (hi i h).2, wsn⟩,
    ⟨hs.gs, forall_mem_concat hs.gc (fr _ hw.global), hs.ss, ?_, ?_⟩, forall_mem_concat hk hk'⟩
  · exact fun x hx => forall_mem_concat (hs.sc x hx)
      ⟨fr _ (dict_lt (hw.snaps x hx)), fun i h1 h2 => fr _ (hw.snaps x hx) i h2 (PTree.dictIds_sub h1)⟩
  · exact PairwiseAt.concat hs.cc (fun y hy => disjointIds_symm (fr _ (hw.callers y hy)))
      (fun y hy => fr _ (hw.callers y hy))

theorem Sys.Inv.appendSnap {T : PTree} (h : s.Inv) (hn : s.next ≤ n1)
    (hT : T.All (Fresh s.next n1) (fun i => Fresh s.next n1 i ∨ ∃ c ∈ s.callers, i ∈ c.listIds)) :
    ({ s with next := n1, snaps := s.snaps ++ [T] } : Sys).Inv := by
  obtain ⟨hw, hs, hk⟩ := h
  obtain ⟨wg, wc, wsn⟩ := hw.lt_of_le hn
  have hi : ∀ i ∈ T.ids, Fresh s.next n1 i ∨ ∃ c ∈ s.callers, i ∈ c.listIds :=
    PTree.forall_ids.2 (hT.mono (fun _ => Or.inl) fun _ => id)
  have dT : ∀ A : List Nat, (∀ i ∈ A, i < s.next) → disjointIds T.dictIds A :=
    fun A hA i h1 h2 => by have := hA i h2; have := (hT.1 i h1).1; omega
  have iT : ∀ A : List Nat, (∀ i ∈ A, i < s.next) → (∀ c ∈ s.callers, disjointIds A c.listIds) →
      disjointIds A T.ids := by
    intro A hA hc i h1 h2
    rcases hi i h2 with h | ⟨c, hcm, hl⟩
    · have := hA i h1; have := h.1; omega
    · exact hc c hcm i h1 hl
  have ls : ∀ {A : List Nat} {c : PTree}, disjointIds A c.ids → disjointIds A c.listIds :=
    fun h i h1 h2 => h i h1 (PTree.listIds_sub h2)
  refine ⟨⟨wg, wc, forall_mem_concat wsn fun i h => ?_⟩,
    ⟨forall_mem_concat hs.gs (iT _ hw.global fun c hc => ls (hs.gc c hc)), hs.gc, ?_, ?_, hs.cc⟩, hk⟩
  · rcases hi i h with h | ⟨c, hc, hl⟩
    · exact h.2
    · exact wc c hc i (PTree.listIds_sub hl)
  · exact PairwiseAt.concat hs.ss (fun y hy => dT _ (hw.snaps y hy))
      (fun y hy => iT _ (dict_lt (hw.snaps y hy)) fun c hc => ls (hs.sc y hy c hc).1)
  · refine forall_mem_concat hs.sc fun c hc =>
      ⟨dT _ (hw.callers c hc), iT _ (dict_lt (hw.callers c hc)) fun c' hc' => ?_⟩
    -- a dict of one caller against a list of another: `cc`; of the same caller: `Kinds`
    obtain ⟨a, ha⟩ := List.getElem?_of_mem hc
    obtain ⟨b, hb⟩ := List.getElem?_of_mem hc'
    by_cases hab : a = b
    · subst hab; rw [ha] at hb; cases hb; exact hk c hc
    · exact fun i h1 h2 => hs.cc a b c c' hab ha hb i (PTree.dictIds_sub h1) (PTree.listIds_sub h2)

end updates

theorem map_sync_eq_self (src : PTree) (ids : List Nat) (l : List PTree)
    (h : ∀ t ∈ l, disjointIds ids t.ids) : l.map (PTree.sync src ids) = l := by
  have : ∀ t ∈ l, PTree.sync src ids t = id t := fun t ht => sync_of_disjoint src ids t (h t ht)
  rw [List.map_congr_left this, List.map_id]

theorem resetFold_all {P Q : Nat → Prop} {d : PTree} (hd : d.All P Q) :
    ∀ (names : List String) (acc : PTree × Bool), acc.1.All P Q → (resetFold d names acc).1.All P Q
  | [], _, h => h
  | n :: names, acc, h => by
    rw [resetFold_cons]
    refine resetFold_all hd names _ ?_
    simp only [resetFold, List.foldl_cons, List.foldl_nil]
    by_cases hb : acc.2 = true
    · rw [if_pos hb]; exact h
    · rw [if_neg hb]
      match hx : d.getPath [n], hg' : acc.1.setPath [n] ((d.getPath [n]).getD (.leaf .none)) with
      | some x, some g' =>
        rw [hx] at hg'
        exact h.setPath (hd.getPath_one hx) hg'
      | none, _ => exact h
      | some _, none => exact h

theorem Sys.Sep.syncAll_global {s : Sys} (hs : s.Sep) (src : PTree) (ids : List Nat)
    (h : ∀ i ∈ ids, i ∈ s.global.dictIds) (n : Nat) (g : PTree) :
    ({ (s.syncAll src ids) with next := n, global := g } : Sys) = { s with next := n, global := g } := by
  have a : (s.syncAll src ids).callers = s.callers :=
    map_sync_eq_self _ _ _ fun t ht i hi => hs.gc t ht i (PTree.dictIds_sub (h i hi))
  have b : (s.syncAll src ids).snaps = s.snaps :=
    map_sync_eq_self _ _ _ fun t ht i hi => hs.gs t ht i (PTree.dictIds_sub (h i hi))
  simp only [a, b]
  rfl

/-- `step_X_shape`: under `Sep` the step only rewrites the root it is aimed at (by itself when it fails). -/
theorem step_global_shape (s : Sys) (hs : s.Sep) (op : SOp)
    (hop : (∃ p v, op = .setGlobal p v) ∨ (∃ y, op = .setPrms y) ∨ (∃ w, op = .reset w)) :
    ∃ n g, s.next ≤ n ∧ g.GrownFrom s.global s.next n ∧ (s.step op).1 = { s with next := n, global := g } := by
  have same : ∃ n g, s.next ≤ n ∧ g.GrownFrom s.global s.next n ∧ s = { s with next := n, global := g } :=
    ⟨s.next, s.global, Nat.le_refl _, .refl .., rfl⟩
  rcases hop with ⟨p, v, rfl⟩ | ⟨y, rfl⟩ | ⟨w, rfl⟩
  · rw [step_setGlobal_eq]
    match hg : s.global.setPath p (v.deepcopy s.next).1, hid : s.global.pathDictId p with
    | some g', some id =>
      exact ⟨_, g', PTree.deepcopy_le v s.next, .setPath (PTree.deepcopy_fresh v s.next) hg,
        hs.syncAll_global g' [id] (List.forall_mem_singleton.2 (PTree.pathDictId_mem _ _ _ hid)) _ _⟩
    | none, _ => exact same
    | some _, none => exact same
  · rw [step_setPrms_eq]
    exact ⟨_, _, PTree.deepcopy_le y s.next, (adjust_all (T := fun _ => True)).1 _ _ [] (PTree.GrownFrom.refl _ _ _)
      ⟨fun _ _ => trivial, fun i hi => Or.inr ((PTree.deepcopy_fresh y s.next).2 i hi)⟩,
      hs.syncAll_global _ _ (fun _ hi => hi) _ _⟩
  · have hn := PTree.deepcopy_le s.defaults s.next
    have hf := PTree.GrownFrom.of_fresh (t := s.global) (PTree.deepcopy_fresh s.defaults s.next)
    cases w with
    | none => exact ⟨_, _, hn, hf, congrArg Prod.fst (step_resetNone_eq s)⟩
    | some names =>
      rw [step_resetSome_eq]
      cases hid : s.global.pathDictId ["_"] with
      | none => exact same
      | some gid =>
        exact ⟨_, _, hn, resetFold_all hf names (s.global, false) (PTree.GrownFrom.refl _ _ _),
          hs.syncAll_global _ [gid] (List.forall_mem_singleton.2 (PTree.pathDictId_mem _ _ _ hid)) _ _⟩

/-- The new snapshot's dicts are fresh; its lists are fresh or the caller's own (`adjust` stores them as is). -/
theorem step_construct_shape (s : Sys) (c : Option Nat) :
    ∃ n, s.next ≤ n ∧ ((s.step (.construct c)).1 = { s with next := n } ∨
      ∃ T, T.All (Fresh s.next n) (fun i => Fresh s.next n i ∨ ∃ c ∈ s.callers, i ∈ c.listIds) ∧
        (s.step (.construct c)).1 = { s with next := n, snaps := s.snaps ++ [T] }) := by
  have hn := PTree.deepcopy_le s.global s.next
  have hfull := (PTree.deepcopy_fresh s.global s.next).mono
    (Q' := fun i => Fresh s.next (s.global.deepcopy s.next).2 i ∨ ∃ c ∈ s.callers, i ∈ c.listIds) (fun _ => id)
    (fun _ => Or.inl)
  cases c with
  | none => exact ⟨_, hn, .inr ⟨_, hfull, congrArg Prod.fst (step_constructNone_eq s)⟩⟩
  | some i =>
    cases hprm : s.callers[i]? with
    | none => exact ⟨s.next, Nat.le_refl _, .inl (by rw [step_constructSome_eq, hprm])⟩
    | some prm =>
      simp only [step_constructSome_eq, hprm]
      split
      · exact ⟨_, hn, .inl rfl⟩
      · exact ⟨_, hn, .inr ⟨_, (adjust_all (T := fun _ => True)).1 _ prm [] hfull
          ⟨fun _ _ => trivial, fun i hi => Or.inr ⟨prm, List.mem_of_getElem? hprm, hi⟩⟩, rfl⟩⟩

theorem step_setSnap_shape (s : Sys) (hs : s.Sep) (j : Nat) (p : List String) (v : PTree) :
    (s.step (.setSnap j p v)).1 = s ∨
    ∃ t t', s.snaps[j]? = some t ∧ t.setPath p (v.deepcopy s.next).1 = some t' ∧
      (s.step (.setSnap j p v)).1 = { s with next := (v.deepcopy s.next).2, snaps := s.snaps.set j t' } := by
  cases ht : s.snaps[j]? with
  | none => exact Or.inl (by rw [step_setSnap_eq, ht])
  | some t =>
    simp only [step_setSnap_eq, ht]
    match ht' : t.setPath p (v.deepcopy s.next).1, hid : t.pathDictId p with
    | none, _ => exact Or.inl rfl
    | some _, none => exact Or.inl rfl
    | some t', some id =>
      refine Or.inr ⟨t, t', rfl, ht', ?_⟩
      have htm : t ∈ s.snaps := List.mem_of_getElem? ht
      have hg := sync_path_eq_self t' hid fun i hi hg => hs.gs t htm i hg (PTree.dictIds_sub hi)
      have hc : s.callers.map (PTree.sync t' [id]) = s.callers :=
        map_sync_eq_self _ _ _ fun c hc => pathDictId_disj_of_ids hid (hs.sc t htm c hc).1
      have hsn : (s.snaps.map (PTree.sync t' [id])).set j t' = s.snaps.set j t' :=
        set_map_eq_set _ _ _ _ fun a y haj hy => sync_path_eq_self t' hid (hs.ss j a t y (Ne.symm haj) ht hy)
      simp only [Sys.syncAll, hg, hc, hsn]

theorem step_setCaller_shape (s : Sys) (hs : s.Sep) (j : Nat) (p : List String) (v : PTree) :
    (s.step (.setCaller j p v)).1 = s ∨
    ∃ t t', s.callers[j]? = some t ∧ t.setPath p (v.deepcopy s.next).1 = some t' ∧
      (s.step (.setCaller j p v)).1 = { s with next := (v.deepcopy s.next).2, callers := s.callers.set j t' } := by
  cases ht : s.callers[j]? with
  | none => exact Or.inl (by rw [step_setCaller_eq, ht])
  | some t =>
    simp only [step_setCaller_eq, ht]
    match ht' : t.setPath p (v.deepcopy s.next).1, hid : t.pathDictId p with
    | none, _ => exact Or.inl rfl
    | some _, none => exact Or.inl rfl
    | some t', some id =>
      refine Or.inr ⟨t, t', rfl, ht', ?_⟩
      have htm : t ∈ s.callers := List.mem_of_getElem? ht
      have hg := sync_path_eq_self t' hid fun i hi hg => hs.gc t htm i hg (PTree.dictIds_sub hi)
      have hsn : s.snaps.map (PTree.sync t' [id]) = s.snaps :=
        map_sync_eq_self _ _ _ fun x hx => pathDictId_disj_of_ids hid (hs.sc x hx t htm).2
      have hc : (s.callers.map (PTree.sync t' [id])).set j t' = s.callers.set j t' :=
        set_map_eq_set _ _ _ _ fun a y haj hy => sync_path_eq_self t' hid fun i hi =>
          hs.cc j a t y (Ne.symm haj) ht hy i (PTree.dictIds_sub hi)
      simp only [Sys.syncAll, hg, hc, hsn]

theorem step_inv (s : Sys) (op : SOp) (h : s.Inv) : (s.step op).1.Inv := by
  have glob : ∀ op, ((∃ p v, op = .setGlobal p v) ∨ (∃ y, op = .setPrms y) ∨ (∃ w, op = .reset w)) →
      (s.step op).1.Inv := by
    intro op hop
    obtain ⟨n, g, hn, hg, h0⟩ := step_global_shape s h.sep op hop
    rw [h0]
    exact h.replaceGlobal hn hg
  cases op with
  | setGlobal p v => exact glob _ (.inl ⟨p, v, rfl⟩)
  | setPrms y => exact glob _ (.inr (.inl ⟨y, rfl⟩))
  | reset w => exact glob _ (.inr (.inr ⟨w, rfl⟩))
  | construct c =>
    obtain ⟨n, hn, h0 | ⟨T, hT, h0⟩⟩ := step_construct_shape s c
    · rw [h0]; exact h.replaceGlobal hn (.refl ..)  -- only `next` moves: the global replaces itself
    · rw [h0]; exact h.appendSnap hn hT
  | setSnap j p v =>
    rcases step_setSnap_shape s h.sep j p v with h0 | ⟨t, t', ht, ht', h0⟩
    · rw [h0]; exact h
    · rw [h0]; exact h.replaceSnap (PTree.deepcopy_le v s.next) ht (.setPath (PTree.deepcopy_fresh v s.next) ht')
  | setCaller j p v =>
    have hf := PTree.deepcopy_fresh v s.next
    rcases step_setCaller_shape s h.sep j p v with h0 | ⟨t, t', ht, ht', h0⟩
    · rw [h0]; exact h
    · rw [h0]
      have htm := List.mem_of_getElem? ht
      -- the written copy is fresh: it shares no node with the dictionary it goes into
      have htv : disjointIds t.ids (v.deepcopy s.next).1.ids := fun i h1 h2 => by
        have := h.wf.callers t htm i h1
        have := (PTree.forall_ids.2 hf i h2).1
        omega
      exact h.replaceCaller (PTree.deepcopy_le v s.next) ht (.setPath hf ht')
        (PTree.setPath_kinds (h.kinds t htm) (PTree.deepcopy_kinds v s.next) htv ht')
  | newCaller t =>
    rw [step_newCaller_eq]
    exact h.appendCaller (PTree.deepcopy_le t s.next) (PTree.deepcopy_fresh t s.next) (PTree.deepcopy_kinds t s.next)

theorem init_inv (defaults : PTree) : (Sys.init defaults).Inv := by
  have hf := PTree.deepcopy_fresh defaults 1
  have e : Sys.init defaults = ⟨(defaults.deepcopy 1).2, (defaults.deepcopy 1).1, defaults, [], []⟩ := rfl
  rw [e]
  exact ⟨⟨fun i hi => (PTree.forall_ids.2 hf i hi).2, fun _ h => (nomatch h), fun _ h => (nomatch h)⟩,
    ⟨fun _ h => (nomatch h), fun _ h => (nomatch h), PairwiseAt.nil, fun _ h => (nomatch h), PairwiseAt.nil⟩,
    fun _ h => (nomatch h)⟩

theorem run_inv (s : Sys) (ops : List SOp) (h : s.Inv) : (s.run ops).1.Inv := by
  induction ops generalizing s with
  | nil => exact h
  | cons op rest ih => exact ih (s.step op).1 (step_inv s op h)

/-- One tag serves a dict and a list of the same caller dictionary. -/
def cexSys1 : Sys :=
  { next := 10, global := .dict 1 (.cons "a" (.list 2 []) .nil), defaults := .leaf .none,
    callers := [.dict 5 (.cons "a" (.list 5 []) .nil)], snaps := [] }

/-- Without `Kinds`: constructing from the caller dictionary of `cexSys1` puts its list node, whose tag 5 is also a
dict tag of that caller, into the new snapshot. -/
theorem step_wf_sep_false :
    ¬ ∀ (s : Sys) (op : SOp), s.WF → s.Sep → (s.step op).1.WF ∧ (s.step op).1.Sep := by
  intro H
  have hstep : (cexSys1.step (.construct (some 0))).1 =
      { cexSys1 with next := 12, snaps := [.dict 10 (.cons "a" (.list 5 []) .nil)] } := by
    rw [step_constructSome_eq]
    simp [cexSys1, PTree.deepcopy, PEntries.deepcopy, adjustTree, adjustEntries, PEntries.lookup, PEntries.set]
  have hs := (H cexSys1 (.construct (some 0))
    (by refine ⟨?_, ?_, ?_⟩ <;> simp [cexSys1, PTree.ids, PEntries.ids] <;> omega)
    ⟨fun _ h => (nomatch h), by simp [cexSys1, disjointIds, PTree.ids, PEntries.ids], PairwiseAt.nil,
      fun _ h => (nomatch h), PairwiseAt.singleton _⟩).2
  rw [hstep] at hs
  have := (hs.sc (.dict 10 (.cons "a" (.list 5 []) .nil)) (List.mem_singleton.2 rfl)
    (.dict 5 (.cons "a" (.list 5 []) .nil)) (List.mem_singleton.2 rfl)).2 5
  simp [PTree.ids, PEntries.ids, PTree.dictIds, PEntries.dictIds] at this

/-- One snapshot, no caller: a construction with caller index 0 fails. -/
def cexSys2 : Sys :=
  { next := 2, global := .dict 0 .nil, defaults := .leaf .none, callers := [],
    snaps := [.dict 1 (.cons "a" (.leaf (.int 0)) .nil)] }

/-- `C11_no_leak_later` needs the later construction to succeed: when it fails (caller index out of range) nothing is
appended and the last snapshot is the edited one. -/
theorem snap_edit_later_construct_false :
    ¬ ∀ (s : Sys), s.WF → s.Sep → ∀ (j : Nat) (p : List String) (v : PTree) (c : Option Nat),
      ((s.step (.setSnap j p v)).1.step (.construct c)).2 = (s.step (.construct c)).2 ∧
      (((s.step (.setSnap j p v)).1.step (.construct c)).1.snaps.getLast?).map PTree.strip =
        ((s.step (.construct c)).1.snaps.getLast?).map PTree.strip := by
  intro H
  have := (H cexSys2 (by refine ⟨?_, ?_, ?_⟩ <;> simp [cexSys2, PTree.ids, PEntries.ids])
    ⟨by simp [cexSys2, disjointIds, PTree.ids, PEntries.ids], fun _ h => (nomatch h), PairwiseAt.singleton _,
      fun _ _ _ h => (nomatch h), PairwiseAt.nil⟩ 0 ["a"] (.leaf (.int 1)) (some 0)).2
  rw [step_constructSome_eq, step_constructSome_eq, step_setSnap_eq] at this
  simp [cexSys2, PTree.deepcopy, PTree.setPath, PTree.pathDictId, PEntries.set, Sys.syncAll, PTree.sync,
    PEntries.sync, PTree.strip, PEntries.strip] at this

theorem init_wf_sep (defaults : PTree) : (Sys.init defaults).WF ∧ (Sys.init defaults).Sep :=
  ⟨(init_inv defaults).wf, (init_inv defaults).sep⟩

theorem snap_edit_no_leak (s : Sys) (hs : s.Sep) (j : Nat) (p : List String) (v : PTree) :
    (s.step (.setSnap j p v)).1.global = s.global ∧ (s.step (.setSnap j p v)).1.callers = s.callers ∧
    ∀ (i : Nat) (t : PTree), i ≠ j → s.snaps[i]? = some t → (s.step (.setSnap j p v)).1.snaps[i]? = some t := by
  rcases step_setSnap_shape s hs j p v with h0 | ⟨t, t', -, -, h0⟩ <;> rw [h0]
  · exact ⟨rfl, rfl, fun i t _ h => h⟩
  · refine ⟨rfl, rfl, fun i t hij h => ?_⟩
    simp only
    rw [List.getElem?_set_ne (fun e => hij e.symm)]
    exact h

/-- Outcome and contents of a new snapshot depend on the global and the caller dictionaries only, not on the counter or
the snapshots already made. -/
theorem construct_congr (s s' : Sys) (hg : s'.global = s.global) (hc : s'.callers = s.callers)
    (c : Option Nat) :
    (s'.step (.construct c)).2 = (s.step (.construct c)).2 ∧
    ((∃ w, (s.step (.construct c)).2 = .ok w) →
      ((s'.step (.construct c)).1.snaps.getLast?).map PTree.strip =
        ((s.step (.construct c)).1.snaps.getLast?).map PTree.strip) := by
  have hfull : (s'.global.deepcopy s'.next).1.strip = (s.global.deepcopy s.next).1.strip := by
    rw [PTree.deepcopy_strip, PTree.deepcopy_strip, hg]
  cases c with
  | none =>
    rw [step_constructNone_eq, step_constructNone_eq]
    refine ⟨rfl, fun _ => ?_⟩
    simp only [List.getLast?_concat, Option.map_some, hfull]
  | some i =>
    rw [step_constructSome_eq, step_constructSome_eq, hc]
    cases hi : s.callers[i]? with
    | none => exact ⟨rfl, fun ⟨w, hw⟩ => by cases hw⟩
    | some prm =>
      obtain ⟨a, b, c, -⟩ := adjust_contents _ _ prm prm [] hfull rfl
      simp only [c]
      split
      · exact ⟨rfl, fun ⟨w, hw⟩ => by cases hw⟩
      · refine ⟨by rw [b], fun _ => ?_⟩
        simp only [List.getLast?_concat, Option.map_some, a]

theorem snap_edit_later_construct_out (s : Sys) (hw : s.WF) (hs : s.Sep) (j : Nat) (p : List String)
    (v : PTree) (c : Option Nat) :
    ((s.step (.setSnap j p v)).1.step (.construct c)).2 = (s.step (.construct c)).2 := by
  have _ := hw
  obtain ⟨hg, hc, -⟩ := snap_edit_no_leak s hs j p v
  exact (construct_congr s (s.step (.setSnap j p v)).1 hg hc c).1

end Ampy
