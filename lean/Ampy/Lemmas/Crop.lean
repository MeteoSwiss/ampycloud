import Ampy.Model.Pipeline
import Batteries.Data.List.Basic
/-! Behind C07: `cropRows` is `filterMap cropOne`; row by row, cropping is idempotent and blind to heights above the
limit. -/
namespace Ampy

def SameButAbove {α} (lim : Rat) (h h' : Hit α) : Prop :=
  h = h' ∨ (h.ceilo = h'.ceilo ∧ h.dt = h'.dt ∧ h.type = h'.type ∧ aboveLim lim h = true ∧ aboveLim lim h' = true)

/-- One row in `cropRows`: kept unless above the limit; there a first or VV hit becomes a non-detection, a higher hit
is dropped. -/
def cropOne {α} (lim : Rat) (h : Hit α) : Option (Hit α) :=
  if aboveLim lim h then (if h.type ≤ 1 then some { h with type := 0, height := none } else none) else some h

theorem cropRows_eq {α} (lim : Rat) (data : List (Hit α)) : cropRows lim data = data.filterMap (cropOne lim) := rfl

theorem cropRows_append {α} (lim : Rat) (a b : List (Hit α)) :
    cropRows lim (a ++ b) = cropRows lim a ++ cropRows lim b := by
  simp [cropRows_eq, List.filterMap_append]

theorem cropRows_cons {α} (lim : Rat) (h : Hit α) (t : List (Hit α)) :
    cropRows lim (h :: t) = (cropOne lim h).toList ++ cropRows lim t := by
  simp only [cropRows_eq, List.filterMap_cons]
  cases cropOne lim h <;> simp

theorem cropOne_below {α} (lim : Rat) (h : Hit α) (hb : aboveLim lim h = false) : cropOne lim h = some h := by
  simp [cropOne, hb]

theorem cropOne_same {α} (lim : Rat) (h h' : Hit α) (hs : SameButAbove lim h h') :
    cropOne lim h = cropOne lim h' := by
  rcases hs with rfl | ⟨hc, hd, ht, ha, ha'⟩
  · rfl
  · -- both are above the limit: the rows differ in the height only, which is blanked or goes with the row
    obtain ⟨ceilo, dt, height, typ⟩ := h
    obtain ⟨ceilo', dt', height', typ'⟩ := h'
    obtain rfl : ceilo = ceilo' := hc
    obtain rfl : dt = dt' := hd
    obtain rfl : typ = typ' := ht
    simp only [cropOne, ha, ha', if_true]

theorem aboveLim_cropOne {α} (lim : Rat) (h h' : Hit α) (hc : cropOne lim h = some h') : aboveLim lim h' = false := by
  unfold cropOne at hc
  by_cases ha : aboveLim lim h = true
  · rw [if_pos ha] at hc
    split at hc
    · cases hc; rfl
    · cases hc
  · rw [if_neg ha] at hc; cases hc; simpa using ha

theorem cropOne_idem {α} (lim : Rat) (h h' : Hit α) (hc : cropOne lim h = some h') : cropOne lim h' = some h' :=
  cropOne_below lim h' (aboveLim_cropOne lim h h' hc)

theorem cropRows_idem {α} (lim : Rat) (data : List (Hit α)) : cropRows lim (cropRows lim data) = cropRows lim data := by
  rw [cropRows_eq, cropRows_eq, List.filterMap_filterMap]
  congr 1
  funext h
  cases hc : cropOne lim h with
  | none => rfl
  | some h' => exact cropOne_idem lim h h' hc

theorem aboveLim_same {α} (lim : Rat) (h h' : Hit α) (hs : SameButAbove lim h h') : aboveLim lim h = aboveLim lim h' := by
  rcases hs with rfl | ⟨_, _, _, ha, ha'⟩
  · rfl
  · rw [ha, ha']

theorem cropRows_count_same {α} (lim : Rat) (d d' : List (Hit α)) (h : List.Forall₂ (SameButAbove lim) d d') :
    cropRows lim d = cropRows lim d' ∧ (d.filter (aboveLim lim)).length = (d'.filter (aboveLim lim)).length := by
  induction h with
  | nil => exact ⟨rfl, rfl⟩
  | cons hab _ ih =>
    rw [cropRows_cons, cropRows_cons, ih.1, cropOne_same _ _ _ hab, List.filter_cons, List.filter_cons,
      aboveLim_same _ _ _ hab]
    refine ⟨rfl, ?_⟩
    split
    · rw [List.length_cons, List.length_cons, ih.2]
    · exact ih.2

end Ampy
