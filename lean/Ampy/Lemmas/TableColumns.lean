import Ampy.Model.Pipeline
import Ampy.Lemmas.ListFacts
/-!
The two columns a stage writes into the table of the level above: `isolated` (by `find_groups`, `setIsolated`) and
`ncomp` (by `find_layers`, `setNcomp`).  Both are entry-wise updates, and `Row.core` is a row without them.
-/
namespace Ampy

theorem setIsolated_eq (t : Table) (iso : List Bool) :
    setIsolated t iso = t.mapIdx fun i r => { r with isolated := some (iso.getD i true) } :=
  filterMap_range_mapIdx _ t

theorem setNcomp_eq (t : Table) (nc : List Int) :
    setNcomp t nc = t.mapIdx fun i r => { r with ncomp := some (nc.getD i (-1)) } :=
  filterMap_range_mapIdx _ t

def Row.core (r : Row) : Row := { r with isolated := none, ncomp := none }

theorem Row.cid_of_core {r r' : Row} (h : r.core = r'.core) : r.cid = r'.cid := (congrArg Row.cid h :)

theorem mapIdx_core (t : Table) (g : Nat → Row → Row) (hg : ∀ i r, (g i r).core = r.core) :
    (t.mapIdx g).map Row.core = t.map Row.core := by
  apply List.ext_getElem?
  intro i
  simp only [List.getElem?_map, List.getElem?_mapIdx, Option.map_map]
  cases t[i]? with
  | none => rfl
  | some r => exact congrArg some (hg i r)

theorem setIsolated_core (t : Table) (iso : List Bool) : (setIsolated t iso).map Row.core = t.map Row.core := by
  rw [setIsolated_eq]
  exact mapIdx_core t _ fun _ _ => rfl

theorem setNcomp_core (t : Table) (nc : List Int) : (setNcomp t nc).map Row.core = t.map Row.core := by
  rw [setNcomp_eq]
  exact mapIdx_core t _ fun _ _ => rfl

theorem map_cid_of_core {t t' : Table} (h : t.map Row.core = t'.map Row.core) : t.map (·.cid) = t'.map (·.cid) := by
  have := congrArg (List.map (·.cid)) h
  rwa [List.map_map, List.map_map] at this

theorem setIsolated_map_cid (t : Table) (iso : List Bool) : (setIsolated t iso).map (·.cid) = t.map (·.cid) :=
  map_cid_of_core (setIsolated_core t iso)

theorem setNcomp_map_cid (t : Table) (nc : List Int) : (setNcomp t nc).map (·.cid) = t.map (·.cid) :=
  map_cid_of_core (setNcomp_core t nc)

theorem setNcomp_entry (t : Table) (nc : List Int) (hlen : nc.length = t.length) (ind : Nat) (g : Row)
    (h : (setNcomp t nc)[ind]? = some g) :
    ∃ r₀ k, t[ind]? = some r₀ ∧ nc[ind]? = some k ∧ g = { r₀ with ncomp := some k } := by
  rw [setNcomp_eq, List.getElem?_mapIdx] at h
  obtain ⟨r₀, hr₀, rfl⟩ := Option.map_eq_some_iff.mp h
  have hi : ind < nc.length := hlen ▸ (List.getElem?_eq_some_iff.mp hr₀).1
  refine ⟨r₀, _, hr₀, ?_, rfl⟩
  rw [List.getD_eq_getElem?_getD, List.getElem?_eq_getElem hi]
  rfl

@[simp] theorem getElem?_setIsolated (t : Table) (iso : List Bool) (i : Nat) :
    (setIsolated t iso)[i]? = (t[i]?).map fun r => { r with isolated := some (iso.getD i true) } := by
  rw [setIsolated_eq, List.getElem?_mapIdx]

@[simp] theorem getElem?_setNcomp (t : Table) (nc : List Int) (i : Nat) :
    (setNcomp t nc)[i]? = (t[i]?).map fun r => { r with ncomp := some (nc.getD i (-1)) } := by
  rw [setNcomp_eq, List.getElem?_mapIdx]

@[simp] theorem length_setIsolated (t : Table) (iso : List Bool) : (setIsolated t iso).length = t.length := by
  rw [setIsolated_eq, List.length_mapIdx]

@[simp] theorem length_setNcomp (t : Table) (nc : List Int) : (setNcomp t nc).length = t.length := by
  rw [setNcomp_eq, List.length_mapIdx]

theorem setIsolated_idem (t : Table) (iso : List Bool) : setIsolated (setIsolated t iso) iso = setIsolated t iso := by
  apply List.ext_getElem?
  intro i
  simp only [getElem?_setIsolated, Option.map_map]
  cases t[i]? <;> rfl

theorem setNcomp_idem (t : Table) (nc : List Int) : setNcomp (setNcomp t nc) nc = setNcomp t nc := by
  apply List.ext_getElem?
  intro i
  simp only [getElem?_setNcomp, Option.map_map]
  cases t[i]? <;> rfl

end Ampy
