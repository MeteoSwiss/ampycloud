import Batteries.Data.List.Basic
/-!
`Sat x Q E`: the `Except` computation `x` returns a value satisfying `Q` or fails with an error satisfying `E`; its
rules prove such a statement by walking a function once. After them, the equations of `>>=` and `<$>` on `Except`.

Naming in the lemma modules: `f_sat` is the `Sat` statement of `f` (its `E` says how `f` can fail, its `Q` what `f`
returns); `f_post` is what a successful call returns, `f_error` what a failed one implies, `f_total` is "returns
`.ok`", `f_eq` an equation of `f`. A `_sat` takes its hypotheses as arguments, except those that a theorem read off
it must do without: these stand inside `Q` or `E`.
-/
namespace Ampy

def Sat {ε β} (x : Except ε β) (Q : β → Prop) (E : ε → Prop) : Prop :=
  match x with
  | .ok a => Q a
  | .error e => E e

namespace Sat
variable {ε β γ : Type} {x : Except ε β} {Q Q' : β → Prop} {E E' : ε → Prop}

theorem pure {a : β} (h : Q a) : Sat (Pure.pure a : Except ε β) Q E := h
theorem throw {e : ε} (h : E e) : Sat (throw e : Except ε β) Q E := h

theorem of_ok (h : Sat x Q E) {a : β} (hx : x = .ok a) : Q a := by
  subst hx; exact h

theorem of_error (h : Sat x Q E) {e : ε} (hx : x = .error e) : E e := by
  subst hx; exact h

theorem exists_ok (h : Sat x Q E) (hE : ∀ e, ¬ E e) : ∃ a, x = .ok a ∧ Q a := by
  cases x with
  | ok a => exact ⟨a, rfl, h⟩
  | error e => exact absurd h (hE e)

theorem mono (h : Sat x Q E) (hQ : ∀ a, Q a → Q' a) (hE : ∀ e, E e → E' e) : Sat x Q' E' := by
  cases x with
  | ok a => exact hQ a h
  | error e => exact hE e h

theorem with_eq (h : Sat x Q E) : Sat x (fun a => x = .ok a ∧ Q a) E := by
  cases x with
  | ok a => exact ⟨rfl, h⟩
  | error e => exact h

theorem of_eq (hE : ∀ e, x = .error e → E e) : Sat x (fun a => x = .ok a) E := by
  cases x with
  | ok a => exact rfl
  | error e => exact hE e rfl

theorem bind {g : β → Except ε γ} {R : γ → Prop} (h : Sat x Q E) (hg : ∀ a, Q a → Sat (g a) R E) :
    Sat (x >>= g) R E := by
  cases x with
  | ok a => exact hg a h
  | error e => exact h

theorem foldlM {σ : Type} {f : σ → γ → Except ε σ} {Inv : σ → Prop} :
    ∀ (l : List γ) (s : σ), Inv s → (∀ s c, c ∈ l → Inv s → Sat (f s c) Inv E) → Sat (l.foldlM f s) Inv E
  | [], _, hs, _ => hs
  | c :: t, s, hs, hstep => by
    rw [List.foldlM_cons]
    exact bind (hstep s c List.mem_cons_self hs) fun s' hs' =>
      foldlM t s' hs' fun s c hc => hstep s c (List.mem_cons_of_mem _ hc)

theorem foldlM_range {σ : Type} {f : σ → Nat → Except ε σ} {Inv : Nat → σ → Prop} (n : Nat) (s : σ) (h0 : Inv 0 s)
    (hstep : ∀ k s, k < n → Inv k s → Sat (f s k) (Inv (k + 1)) E) :
    Sat ((List.range n).foldlM f s) (Inv n) E := by
  induction n with
  | zero => exact h0
  | succ n ih =>
    rw [List.range_succ, List.foldlM_append]
    refine bind (ih fun k s hk => hstep k s (Nat.lt_succ_of_lt hk)) fun s' hs' => ?_
    rw [List.foldlM_cons]
    exact bind (hstep n s' (Nat.lt_succ_self n) hs') fun _ h => h

theorem mapM {f : γ → Except ε β} {R : γ → β → Prop} :
    ∀ (l : List γ), (∀ c ∈ l, Sat (f c) (R c) E) → Sat (l.mapM f) (List.Forall₂ R l) E
  | [], _ => by rw [List.mapM_nil]; exact List.Forall₂.nil
  | c :: t, h => by
    rw [List.mapM_cons]
    refine bind (h c List.mem_cons_self) fun b hb => ?_
    refine bind (mapM t fun c hc => h c (List.mem_cons_of_mem _ hc)) fun bs hbs => ?_
    exact List.Forall₂.cons hb hbs

end Sat

theorem ok_bind {ε γ δ : Type} (a : γ) (g : γ → Except ε δ) : (Except.ok a >>= g) = g a := rfl
theorem error_bind {ε γ δ : Type} (e : ε) (g : γ → Except ε δ) :
    ((Except.error e : Except ε γ) >>= g) = Except.error e := rfl
theorem map_ok {ε γ δ : Type} (φ : γ → δ) (a : γ) :
    Except.map φ (Except.ok a : Except ε γ) = Except.ok (φ a) := rfl
theorem map_error {ε γ δ : Type} (φ : γ → δ) (e : ε) :
    Except.map φ (Except.error e : Except ε γ) = Except.error e := rfl
theorem map_pure {ε γ δ : Type} (φ : γ → δ) (a : γ) :
    Except.map φ (pure a : Except ε γ) = pure (φ a) := rfl

theorem bind_eq_ok {ε β γ} {x : Except ε β} {g : β → Except ε γ} {c : γ} :
    x >>= g = .ok c ↔ ∃ a, x = .ok a ∧ g a = .ok c := by
  cases x with
  | ok a => exact ⟨fun h => ⟨a, rfl, h⟩, fun ⟨_, h, h'⟩ => by cases h; exact h'⟩
  | error e => exact ⟨fun h => (nomatch h), fun ⟨_, h, _⟩ => nomatch h⟩

theorem ok_ne_error {ε β} {x : Except ε β} {a : β} {e : ε} (h : x = .ok a) : x ≠ .error e :=
  fun he => nomatch h.symm.trans he

theorem bind_congr_ok {ε β γ} {x : Except ε β} {f g : β → Except ε γ} (h : ∀ a, x = .ok a → f a = g a) :
    x >>= f = x >>= g := by
  cases x with
  | error e => rfl
  | ok a => exact h a rfl

theorem ite_bind {ε β γ} (c : Prop) [Decidable c] (a b : Except ε β) (f : β → Except ε γ) :
    (if c then a else b) >>= f = if c then a >>= f else b >>= f := by
  split <;> rfl

theorem map_bind_except {ε β γ δ} (φ : γ → δ) (x : Except ε β) (g : β → Except ε γ) :
    (x >>= g).map φ = x >>= fun a => (g a).map φ := by
  cases x <;> rfl

end Ampy
