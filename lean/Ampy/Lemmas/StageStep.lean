import Ampy.Model.Multi
import Ampy.Lemmas.Cascade
/-!
Behind C13 and C14.  One call of the stage machine on an arbitrary chunk: what `step` returns given the answers of the
computations it makes, when it is refused for a missing table (ids and tables are taken to go together), and that a
call which does not return `done` changes nothing.  Then histories (`runOps`) and schedules over several chunks (`stepAt`, `runSched`).
-/
namespace Ampy

variable {α : Type} [DecidableEq α] {K : Kern} {P : PPrms α} {c : Chunk α}

theorem step_findSlices {sids : List Int} {t : Table} (hs : sliceIds K P c.data = .ok sids)
    (ht : metarize K.toMetK P.toPrms .slices c.layers.isSome c.data sids = .ok t) :
    step K P c .findSlices = ({ c with sids := some sids, slices := some (carryIsolated c.slices t) }, .done) := by
  simp only [step, findSlices_eq, hs, ht, ok_bind]
  rfl

theorem step_findGroups {sl : Table} {sids gids : List Int} {iso : List Bool} {t : Table}
    (h1 : c.slices = some sl) (h2 : c.sids = some sids) (h3 : c.layers = none)
    (hg : groupIds K P c.data sids sl = .ok (gids, iso))
    (ht : metarize K.toMetK P.toPrms .groups false c.data gids = .ok t) :
    step K P c .findGroups =
      ({ c with gids := some gids, slices := some (setIsolated sl iso), groups := some t }, .done) := by
  simp only [step, findGroups_eq K P c sl sids h1 h2 h3, hg, ht, ok_bind]
  rfl

theorem step_findGroups_refused (h : c.slices = none ∨ c.layers.isSome = true) :
    step K P c .findGroups = (c, .ampyError) := by
  unfold step findGroups
  rcases h with h | h
  · simp [h, outOfErr, throw, throwThe, MonadExceptOf.throw]
  · -- with a layers table the call is refused whatever else is there: "Slicing not yet done" when the slices or their
    -- ids are missing, "Layering already done" otherwise
    cases c.slices with
    | none => simp [outOfErr, throw, throwThe, MonadExceptOf.throw]
    | some sl =>
      cases c.sids with
      | none => simp [outOfErr, throw, throwThe, MonadExceptOf.throw]
      | some sids => simp [h, outOfErr, bind, Except.bind, throw, throwThe, MonadExceptOf.throw]

theorem step_findLayers {gr : Table} {gids lids : List Int} {nc : List Int} {t : Table}
    (h1 : c.groups = some gr) (h2 : c.gids = some gids)
    (hl : layerIds K P c.data gids gr = .ok (lids, nc))
    (ht : metarize K.toMetK P.toPrms .layers true c.data lids = .ok t) :
    step K P c .findLayers =
      ({ c with lids := some lids, groups := some (setNcomp gr nc), layers := some t }, .done) := by
  simp only [step, findLayers_eq K P c gr gids h1 h2, hl, ht, ok_bind]
  rfl

theorem step_findLayers_refused (h : c.groups = none) : step K P c .findLayers = (c, .ampyError) := by
  simp [step, findLayers, h, outOfErr, throw, throwThe, MonadExceptOf.throw]

theorem step_metarize {w : Which} {ids : List Int} {t : Table} (hi : idsOf c w = some ids)
    (ht : metarize K.toMetK P.toPrms w c.layers.isSome c.data ids = .ok t) :
    step K P c (.metarize w) =
      (match w with
        | .slices => { c with slices := some (carryIsolated c.slices t) }
        | .groups => { c with groups := some t }
        | .layers => { c with layers := some t }, .done) := by
  cases w <;> simp [step, metarizeOp, hi, ht]

theorem step_metarize_refused {w : Which}
    (h : idsOf c w = none ∨ ∃ ids why, idsOf c w = some ids ∧
      metarize K.toMetK P.toPrms w c.layers.isSome c.data ids = .error (.ampy why)) :
    step K P c (.metarize w) = (c, .ampyError) := by
  rcases h with h | ⟨ids, why, h, he⟩
  · simp [step, metarizeOp, h, outOfErr]
  · simp [step, metarizeOp, h, he, outOfErr]

theorem step_metarMsg (w : Which) :
    step K P c (.metarMsg w) = (c, match metarMsgOp P c w with | .ok s => .msg s | .error _ => .ampyError) := by
  simp only [step]
  cases h : metarMsgOp P c w with
  | ok s => rfl
  | error e =>
    unfold metarMsgOp at h
    split at h
    · cases h
    · cases h; rfl

theorem step_fst_of_ne_done (c : Chunk α) (op : Op) (h : (step K P c op).2 ≠ .done) : (step K P c op).1 = c := by
  -- a stage call returns the new chunk with `done`, or the old chunk with the error
  have key : ∀ x : Except AmpyErr (Chunk α),
      (match x with | .ok c' => (c', Out.done) | .error e => (c, outOfErr e)).2 ≠ .done →
      (match x with | .ok c' => (c', Out.done) | .error e => (c, outOfErr e)).1 = c := by
    intro x hx
    cases x with
    | ok c' => exact absurd rfl hx
    | error e => rfl
  cases op with
  | findSlices => exact key _ h
  | findGroups => exact key _ h
  | findLayers => exact key _ h
  | metarize w => exact key _ h
  | metarMsg w => rw [step_metarMsg]

theorem runOps_cons (K : Kern) (P : PPrms α) (c : Chunk α) (op : Op) (rest : List Op) :
    runOps K P c (op :: rest) =
      ((runOps K P (step K P c op).1 rest).1, (step K P c op).2 :: (runOps K P (step K P c op).1 rest).2) := rfl

theorem runOps_ind {I : Chunk α → Prop} {O : Out → Prop}
    (hstep : ∀ c op, I c → I (step K P c op).1 ∧ O (step K P c op).2) (c : Chunk α) (hc : I c) (ops : List Op) :
    I (runOps K P c ops).1 ∧ ∀ o ∈ (runOps K P c ops).2, O o := by
  induction ops generalizing c with
  | nil => exact ⟨hc, fun o ho => by cases ho⟩
  | cons op rest ih =>
    obtain ⟨h1, h2⟩ := hstep c op hc
    obtain ⟨h3, h4⟩ := ih _ h1
    exact ⟨h3, fun o ho => by
      rcases List.mem_cons.mp ho with rfl | ho
      · exact h2
      · exact h4 o ho⟩

theorem runSched_cons (K : Kern) (Ps : Nat → PPrms α) (cs : List (Chunk α)) (i : Nat) (op : Op)
    (rest : List (Nat × Op)) :
    runSched K Ps cs ((i, op) :: rest) =
      ((runSched K Ps (stepAt K Ps cs i op).1 rest).1,
        (i, (stepAt K Ps cs i op).2) :: (runSched K Ps (stepAt K Ps cs i op).1 rest).2) := rfl

theorem stepAt_getElem? (K : Kern) (Ps : Nat → PPrms α) (cs : List (Chunk α)) (i k : Nat) (op : Op) :
    (stepAt K Ps cs i op).1[k]? =
      if k = i then (cs[i]?).map (fun c => (step K (Ps i) c op).1) else cs[k]? := by
  unfold stepAt
  cases hc : cs[i]? with
  | none =>
    by_cases hk : k = i
    · rw [if_pos hk, hk, hc]; rfl
    · rw [if_neg hk]
  | some c =>
    have hi : i < cs.length := (List.getElem?_eq_some_iff.mp hc).1
    by_cases hk : k = i
    · rw [if_pos hk, hk, List.getElem?_set_self hi]; rfl
    · rw [if_neg hk, List.getElem?_set_ne (Ne.symm hk)]

theorem stepAt_self (K : Kern) (Ps : Nat → PPrms α) (cs : List (Chunk α)) (i : Nat) (op : Op)
    (c : Chunk α) (hc : cs[i]? = some c) :
    (stepAt K Ps cs i op).1[i]? = some (step K (Ps i) c op).1 ∧ (stepAt K Ps cs i op).2 = some (step K (Ps i) c op).2 := by
  refine ⟨by rw [stepAt_getElem?, if_pos rfl, hc]; rfl, ?_⟩
  unfold stepAt
  rw [hc]

theorem runSched_proj (K : Kern) (Ps : Nat → PPrms α) (sched : List (Nat × Op))
    (cs : List (Chunk α)) (i : Nat) (c : Chunk α) (hc : cs[i]? = some c) :
    (runSched K Ps cs sched).1[i]? = some (runOps K (Ps i) c (opsOf i sched)).1 ∧
    ((runSched K Ps cs sched).2.filter (·.1 = i)).map (·.2) = (runOps K (Ps i) c (opsOf i sched)).2.map some := by
  induction sched generalizing cs c with
  | nil => exact ⟨hc, rfl⟩
  | cons hd rest ih =>
    obtain ⟨j, op⟩ := hd
    rw [runSched_cons]
    by_cases hji : j = i
    · subst hji
      obtain ⟨hs, ho⟩ := stepAt_self K Ps cs j op c hc
      have e : opsOf j ((j, op) :: rest) = op :: opsOf j rest := by simp [opsOf]
      rw [e, runOps_cons]
      obtain ⟨h1, h2⟩ := ih _ _ hs
      exact ⟨h1, by simp [ho, h2]⟩
    · have e : opsOf i ((j, op) :: rest) = opsOf i rest := by simp [opsOf, hji]
      rw [e]
      have hs : (stepAt K Ps cs j op).1[i]? = some c := by rw [stepAt_getElem?, if_neg (Ne.symm hji), hc]
      obtain ⟨h1, h2⟩ := ih _ c hs
      exact ⟨h1, by simp [hji, h2]⟩

end Ampy
