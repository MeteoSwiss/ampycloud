import Ampy.Lemmas.EndToEnd
import Ampy.Props.C04
import Ampy.Props.C14
import Ampy.Props.C05
import Ampy.Props.C08
/-!
The hypothesis structures are satisfiable: a concrete kernel (`demoKern`), the default parameters (`demoPrms`) and a
concrete scene (`demoScene`) meet `KernOK`, `MetKOK`, `PrmsOK`, `SepShape`, `SepNonneg`, `SelectedPopulated`, `Accepted`,
and through them `run_total`, `Canon`, `IdsExact`, `TableOK` have instances: no theorem assuming them is vacuous.
-/
namespace Ampy

def sortPerm (l : List Rat) : List Nat :=
  (List.range l.length).mergeSort (fun i j => decide (l.getD i 0 ≤ l.getD j 0))

theorem isPermOf_of_perm {perm : List Nat} {n : Nat} (h : perm.Perm (List.range n)) :
    isPermOf perm n = true :=
  isPermOf_iff.mpr ⟨by rw [h.length_eq, List.length_range], fun i hi => h.symm.subset (List.mem_range.mpr hi)⟩

theorem sortPerm_perm (l : List Rat) : isPermOf (sortPerm l) l.length = true :=
  isPermOf_of_perm (List.mergeSort_perm _ _)

theorem sortPerm_sorted (l : List Rat) : (applyPerm (sortPerm l) l).Pairwise (· ≤ ·) := by
  have h := List.pairwise_mergeSort (le := fun i j => decide (l.getD i 0 ≤ l.getD j 0))
    (fun a b c => leRat_trans (l.getD a 0) (l.getD b 0) (l.getD c 0))
    (fun a b => leRat_total (l.getD a 0) (l.getD b 0)) (List.range l.length)
  unfold applyPerm
  rw [List.pairwise_filterMap]
  refine h.imp ?_
  intro i j hij x hx y hy
  simp only [decide_eq_true_eq] at hij
  rw [List.getD_eq_getElem?_getD, List.getD_eq_getElem?_getD] at hij
  rw [hx, hy] at hij
  exact hij

/-- Mixtures never populate a second component and score `n`. -/
def demoKern : Kern where
  dtOrder := sortPerm
  pctl := percentile
  ptsOrder := sortPerm
  lowess := fun pts => pts.map (·.2)
  baseOrder := sortPerm
  cluster := fun _ _ pts => pts.map fun p => if p.2 < 1 / 2 then 0 else 1
  gmm := fun _ vals n => ⟨vals.map (fun _ => 0), (n : Rat)⟩
  bestProb := fun _ _ => 0
  argsort := sortPerm
  prelimOrder := sortPerm

theorem demoKern_met (q : Rat) (h0 : 0 ≤ q) (h1 : q ≤ 100) : MetKOK demoKern.toMetK q where
  baseOrder_perm := sortPerm_perm
  baseOrder_sorted := sortPerm_sorted
  dtOrder_perm := sortPerm_perm
  pctl_between := fun l hl => C04_percentile_between l hl q h0 h1

theorem demoKern_ok (q : Rat) (h0 : 0 ≤ q) (h1 : q ≤ 100) : KernOK demoKern q where
  met := demoKern_met q h0 h1
  cluster_len := fun _ _ pts => List.length_map _
  gmm_len := fun _ vals _ => List.length_map _
  gmm_lt := by
    intro s vals n hn l hl
    obtain ⟨_, _, rfl⟩ := List.mem_map.mp hl
    exact hn
  bestProb_lt := fun ab _ hab => List.length_pos_iff.mpr hab
  argsort_perm := sortPerm_perm
  argsort_sorted := sortPerm_sorted
  prelimOrder_perm := sortPerm_perm
  prelimOrder_sorted := sortPerm_sorted

/-- All defaults of `AMPYCLOUD_PRMS`. -/
def demoPrms : PPrms String := {}

theorem demoPrms_sepNonneg : SepNonneg demoPrms.toPrms := by
  intro v hv
  have hv' : v ∈ [(250 : Rat), 1000] := hv
  simp only [List.mem_cons, List.not_mem_nil, or_false] at hv'
  rcases hv' with rfl | rfl <;> decide

theorem demoPrms_ok : PrmsOK demoPrms where
  t0 := by decide
  sep := rfl
  scores := .inr rfl
  mode := .inl rfl
  hscale := trivial

/-- Two ceilometers over ten minutes: a low deck near 1000 ft seen by both, a higher one near 3000 ft,
and a few non-detections. -/
def demoScene : List (Hit String) := [
  ⟨"A", -540, some 1000, 1⟩, ⟨"A", -480, some 1010, 1⟩, ⟨"A", -420, some 990, 1⟩,
  ⟨"A", -360, none, 0⟩,      ⟨"A", -300, some 1020, 1⟩, ⟨"A", -240, some 1000, 1⟩,
  ⟨"A", -180, some 3000, 1⟩, ⟨"A", -120, some 1010, 1⟩, ⟨"A", -60, some 980, 1⟩,
  ⟨"A", 0, some 1000, 1⟩,
  ⟨"B", -540, some 3010, 1⟩, ⟨"B", -480, some 2990, 1⟩, ⟨"B", -420, none, 0⟩,
  ⟨"B", -360, some 3000, 1⟩, ⟨"B", -300, some 3020, 1⟩, ⟨"B", -240, some 1000, 1⟩,
  ⟨"B", -180, some 2980, 1⟩, ⟨"B", -120, none, 0⟩,      ⟨"B", -60, some 3000, 1⟩,
  ⟨"B", 0, some 3010, 1⟩]

theorem demo_accepted : Accepted demoKern demoPrms demoScene where
  kern := demoKern_ok _ (by decide) (by decide)
  prms := demoPrms_ok
  range := by
    have h : ∀ h ∈ demoScene, ∀ y ∈ h.height, 0 ≤ y ∧ y < 100000 := by decide
    exact fun x hx y hy => h x hx y hy

/-- The scores `1, 2, 3, …` are non-negative and the default gain is `19/20 ≤ 1`: all mode `delta` needs. -/
theorem demoKern_populated : SelectedPopulated demoKern demoPrms :=
  C08_selected_populated_delta demoKern demoPrms demoPrms.basePerc demo_accepted.kern rfl
    (by show (19 / 20 : Rat) ≤ 1; norm_num) fun _ _ n => Nat.cast_nonneg n

/-- From `run_total`, not by evaluation. -/
theorem demo_run_ok : ∃ c, run demoKern demoPrms demoScene = .ok c :=
  run_total demoKern demoPrms demo_accepted.kern demoPrms_ok demoKern_populated demoScene

theorem demo_canon : ∃ S1 S2 S3, Canon demoKern demoPrms (construct demoPrms demoScene) S1 S2 S3 := by
  obtain ⟨c, hc⟩ := demo_run_ok
  obtain ⟨S1, S2, h⟩ := C14_canonical_exists demoKern demoPrms demoScene c hc
  exact ⟨S1, S2, c, h⟩

theorem demo_idsExact : ∃ c sids gids lids, run demoKern demoPrms demoScene = .ok c ∧
    c.sids = some sids ∧ c.gids = some gids ∧ c.lids = some lids ∧
    IdsExact c.data sids ∧ IdsExact c.data gids ∧ IdsExact c.data lids := by
  obtain ⟨c, hc⟩ := demo_run_ok
  obtain ⟨sids, gids, lids, h⟩ := C05_every_hit_assigned demoKern demoPrms demoScene demo_accepted.kern c hc
  exact ⟨c, sids, gids, lids, hc, h⟩

theorem tableOK_nil : TableOK [] where
  sorted := .nil
  flags := by decide
  codes := fun _ h => nomatch h
  oktas := fun _ h => nomatch h
  bases := fun _ h => nomatch h

theorem demo_layers_tableOK : ∃ c lay, run demoKern demoPrms demoScene = .ok c ∧ c.layers = some lay ∧
    TableOK lay := by
  obtain ⟨c, hc⟩ := demo_run_ok
  obtain ⟨lay, _, hl, _, _, hok, _⟩ := run_tableOK demoKern demoPrms demoScene demo_accepted c hc .layers
  exact ⟨c, lay, hc, hl, hok⟩

/-- Checked by kernel evaluation: `find_slices` on the concrete scene separates the two height bands
(non-detections keep `-1`). -/
example : sliceIds demoKern demoPrms demoScene =
    .ok [0, 0, 0, -1, 0, 0, 1, 0, 0, 0, 1, 1, -1, 1, 1, 0, 1, -1, 1, 1] := by
  decide +kernel

/-
The layers message of the concrete run: an interpreter evaluation, not a kernel-checked statement. `decide +kernel`,
`decide` and `rfl` all get stuck on `List.mergeSort` (well-founded recursion, used by the model in `percentile` and
`uniqueSorted`), which does not reduce in the kernel.
-/
/-- info: some "SCT009 SCT029" -/
#guard_msgs in
#eval (run demoKern demoPrms demoScene).toOption.map fun c =>
  metarMsg demoPrms.msa c.flag (nWhich (c.lids.getD [])) (c.layers.getD [])

end Ampy
