import Ampy.Lemmas.Run
import Ampy.Lemmas.Crop
import Ampy.Model.Stage
/-!
What `run` returns, under the properties' quantifier `Accepted` alone.  `run_level` is the statement per level (slices,
groups, layers): the id column, its table, and the facts tying them.
-/
namespace Ampy

/-- The quantifier of the processing properties: accepted input in the physical range, parameters inside
their documented meaning, third-party answers of the documented shape. -/
structure Accepted {α} (K : Kern) (P : PPrms α) (checked : List (Hit α)) : Prop where
  kern : KernOK K P.basePerc
  prms : PrmsOK P
  range : HeightsInRange checked

theorem cropRows_inRange {α} (lim : Rat) (d : List (Hit α)) (h : HeightsInRange d) :
    HeightsInRange (cropRows lim d) := by
  intro x hx y hy
  rw [cropRows_eq, List.mem_filterMap] at hx
  obtain ⟨x0, hx0, hc⟩ := hx
  unfold cropOne at hc
  split at hc
  · split at hc
    · cases hc; simp at hy
    · cases hc
  · cases hc; exact h x hx0 y hy

theorem crop_inRange {α} (P : Prms α) (d : List (Hit α)) (h : HeightsInRange d) :
    HeightsInRange (crop P d).1 := by
  unfold crop
  split
  · exact h
  · exact cropRows_inRange _ d h

theorem tableOK_core (t : Table) : TableOK (t.map Row.core) ↔ TableOK t where
  mp h :=
    { sorted := (List.pairwise_map.mp h.sorted :)
      flags := by have := h.flags; rwa [List.map_map, List.map_map] at this
      codes := List.forall_mem_map.mp h.codes
      oktas := List.forall_mem_map.mp h.oktas
      bases := List.forall_mem_map.mp h.bases }
  mpr h :=
    { sorted := List.pairwise_map.mpr h.sorted
      flags := by rw [List.map_map, List.map_map]; exact h.flags
      codes := List.forall_mem_map.mpr h.codes
      oktas := List.forall_mem_map.mpr h.oktas
      bases := List.forall_mem_map.mpr h.bases }

theorem mem_of_core_eq {t t₀ : Table} (h : t.map Row.core = t₀.map Row.core) {r : Row} (hr : r ∈ t) :
    ∃ r₀ ∈ t₀, r.core = r₀.core := by
  have : r.core ∈ t₀.map Row.core := h ▸ List.mem_map_of_mem hr
  obtain ⟨r₀, h₀, e⟩ := List.mem_map.mp this
  exact ⟨r₀, h₀, e.symm⟩

theorem eq_of_core {r r' : Row} (hc : r.core = r'.core) : r = { r' with isolated := r.isolated, ncomp := r.ncomp } :=
  calc r = { Row.core r with isolated := r.isolated, ncomp := r.ncomp } := by cases r; rfl
    _ = { Row.core r' with isolated := r.isolated, ncomp := r.ncomp } := by rw [hc]
    _ = _ := by cases r'; rfl

theorem run_metarize {α} [DecidableEq α] (K : Kern) (P : PPrms α) (checked : List (Hit α)) (hK : KernOK K P.basePerc)
    (c : Chunk α) (h : run K P checked = .ok c) (w : Which) :
    ∃ t ids t₀, tableOf c w = some t ∧ idsOf c w = some ids ∧ IdsExact c.data ids ∧
      metarize K.toMetK P.toPrms w (decide (w = .layers)) c.data ids = .ok t₀ ∧ t.map Row.core = t₀.map Row.core := by
  obtain ⟨t, hp⟩ := run_parts K P checked c h
  cases w with
  | slices => exact ⟨_, t.sids, t.sl, hp.slices_eq, hp.sids_eq, hp.sidsExact hK, hp.slices, setIsolated_core _ _⟩
  | groups => exact ⟨_, t.gids, t.gr, hp.groups_eq, hp.gids_eq, hp.gidsExact hK, hp.groups, setNcomp_core _ _⟩
  | layers => exact ⟨_, t.lids, t.lay, hp.layers_eq, hp.lids_eq, hp.lidsExact hK, hp.layers, rfl⟩

structure RunLevel {α} [DecidableEq α] (K : Kern) (P : PPrms α) (c : Chunk α) (w : Which) (t : Table)
    (col : List Int) : Prop where
  table : tableOf c w = some t
  ids : idsOf c w = some col
  exact : IdsExact c.data col
  tableOK : TableOK t
  count : nWhich col = t.length
  cids : (t.map (·.cid)).Perm (clusterIds col)
  rows : ∀ r ∈ t, r.cid ∈ clusterIds col ∧ RowOf K.toMetK P.toPrms c.data col r

section
variable {α} [DecidableEq α] {K : Kern} {P : PPrms α} {c : Chunk α} {t : Table} {col : List Int}

theorem RunLevel.slices_eq (S : RunLevel K P c .slices t col) : c.slices = some t ∧ c.sids = some col := ⟨S.table, S.ids⟩

theorem RunLevel.groups_eq (G : RunLevel K P c .groups t col) : c.groups = some t ∧ c.gids = some col := ⟨G.table, G.ids⟩

theorem RunLevel.layers_eq (L : RunLevel K P c .layers t col) : c.layers = some t ∧ c.lids = some col := ⟨L.table, L.ids⟩

end

theorem run_level {α} [DecidableEq α] (K : Kern) (P : PPrms α) (checked : List (Hit α))
    (hA : Accepted K P checked) (c : Chunk α) (h : run K P checked = .ok c) (w : Which) :
    ∃ t ids, RunLevel K P c w t ids := by
  obtain ⟨t, ids, t₀, ht, hi, hx, hm, hc⟩ := run_metarize K P checked hA.kern c h w
  have hr : HeightsInRange c.data := by
    obtain ⟨_, hp⟩ := run_parts K P checked c h
    rw [hp.data]
    exact crop_inRange P.toPrms checked hA.range
  have hp : (t.map (·.cid)).Perm (clusterIds ids) :=
    map_cid_of_core hc ▸ metarize_cids _ _ w _ c.data ids hA.kern.met t₀ hm
  refine ⟨t, ids,
    { table := ht, ids := hi, exact := hx, cids := hp, count := nWhich_eq_length ids hx.toOK.ge t hp,
      tableOK := ?_, rows := fun r hr => ?_ }⟩
  · rw [← tableOK_core, hc, tableOK_core]
    exact metarize_tableOK _ _ w _ c.data ids hA.kern.met hx.toOK hr hA.prms.t0 t₀ hm
  · obtain ⟨r', hr', e⟩ := mem_of_core_eq hc hr
    obtain ⟨hcl, f⟩ := metarize_row _ _ w _ c.data ids hA.kern.met t₀ hm hr'
    exact ⟨Row.cid_of_core e ▸ hcl, eq_of_core e ▸ f.ignores _ _ _⟩

theorem run_tableOK {α} [DecidableEq α] (K : Kern) (P : PPrms α) (checked : List (Hit α))
    (hA : Accepted K P checked) (c : Chunk α) (h : run K P checked = .ok c) (w : Which) :
    ∃ t ids, tableOf c w = some t ∧ idsOf c w = some ids ∧ IdsExact c.data ids ∧ TableOK t ∧
      nWhich ids = t.length ∧ (t.map (·.cid)).Perm (clusterIds ids) :=
  let ⟨t, ids, L⟩ := run_level K P checked hA c h w
  ⟨t, ids, L.table, L.ids, L.exact, L.tableOK, L.count, L.cids⟩

theorem run_msg {α} [DecidableEq α] (K : Kern) (P : PPrms α) (checked : List (Hit α))
    (hA : Accepted K P checked) (c : Chunk α) (h : run K P checked = .ok c) (w : Which) :
    ∃ t, tableOf c w = some t ∧ TableOK t ∧ metarMsgOp P c w = .ok (metarMsg P.msa c.flag t.length t) := by
  obtain ⟨t, ids, L⟩ := run_level K P checked hA c h w
  refine ⟨t, L.table, L.tableOK, ?_⟩
  unfold metarMsgOp
  rw [L.table, L.ids]
  simp only [L.count]

theorem run_flag_iff {α} [DecidableEq α] (K : Kern) (P : PPrms α) (checked : List (Hit α))
    (c : Chunk α) (h : run K P checked = .ok c) :
    c.flag = true ↔ ∃ m, P.msa = some m ∧
      (((checked.filter (aboveLim (m + P.msaBuf))).length : Nat) : Rat) > P.t0 := by
  obtain ⟨_, hp⟩ := run_parts K P checked c h
  rw [hp.flag]
  unfold crop
  cases hm : P.msa with
  | none => simp
  | some m => simp

theorem run_groups_separated {α} [DecidableEq α] (K : Kern) (P : PPrms α) (checked : List (Hit α))
    (hA : Accepted K P checked) (hn : SepNonneg P.toPrms) (c : Chunk α) (h : run K P checked = .ok c)
    (gr : Table) (hg : c.groups = some gr) :
    ∀ r₁ ∈ gr, ∀ r₂ ∈ gr, r₁.cid ≠ r₂.cid → r₁.base ≤ r₂.base →
      ∃ s, minSepFor P.toPrms r₂.base = .ok s ∧ r₂.base - r₁.base ≥ s := by
  obtain ⟨t, hp⟩ := run_parts K P checked c h
  obtain rfl : setNcomp t.gr t.nc = gr := Option.some.inj (hp.groups_eq.symm.trans hg)
  -- the group ids come out of the merge loop, whose exit test separates the bases
  obtain ⟨_, ⟨g0, hm⟩, _⟩ := (groupIds_sat K P c.data _ hA.kern t.sids t.sl (hp.sidsExact hA.kern)).of_ok hp.group
  have key := groups_table_separated K P c.data hA.kern hA.prms.sep hn _ _ hm t.gr hp.groups
  have hrow : ∀ r ∈ setNcomp t.gr t.nc, ∃ r₀ ∈ t.gr, r.cid = r₀.cid ∧ r.base = r₀.base := fun r hr => by
    obtain ⟨r₀, h0, e⟩ := mem_of_core_eq (setNcomp_core t.gr t.nc) hr
    exact ⟨r₀, h0, Row.cid_of_core e, (congrArg Row.base e :)⟩
  intro r₁ h₁ r₂ h₂ hne hle
  obtain ⟨a, ha, ca, ba⟩ := hrow r₁ h₁
  obtain ⟨b, hb, cb, bb⟩ := hrow r₂ h₂
  rw [ba, bb]
  exact key a ha b hb (by rw [← ca, ← cb]; exact hne) (by rw [← ba, ← bb]; exact hle)

theorem run_rows {α} [DecidableEq α] (K : Kern) (P : PPrms α) (checked : List (Hit α))
    (hA : Accepted K P checked) (c : Chunk α) (h : run K P checked = .ok c) (w : Which) :
    ∃ t ids, tableOf c w = some t ∧ idsOf c w = some ids ∧ IdsExact c.data ids ∧
      ∀ r ∈ t, r.cid ∈ clusterIds ids ∧ ∃ r₀, mkRow K.toMetK P.toPrms w c.data ids r.cid = .ok r₀ ∧
        r = { r₀ with significant := r.significant, isolated := r.isolated, ncomp := r.ncomp } := by
  obtain ⟨t, ids, t₀, ht, hi, hx, hm, hc⟩ := run_metarize K P checked hA.kern c h w
  refine ⟨t, ids, ht, hi, hx, fun r hr => ?_⟩
  obtain ⟨r', hr', e⟩ := mem_of_core_eq hc hr
  obtain ⟨hcl, r₀, hr₀, he⟩ := metarize_mkRow _ _ w _ c.data ids hA.kern.met t₀ hm hr'
  rw [Row.cid_of_core e]
  exact ⟨hcl, r₀, hr₀, by rw [eq_of_core e, he]⟩

end Ampy
