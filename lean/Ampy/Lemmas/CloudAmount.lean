import Ampy.Model.Metar
import Ampy.Lemmas.Wmo
import Ampy.Lemmas.ListFacts
namespace Ampy

theorem hitCount_cons {α} [DecidableEq α] (c : α) (cs : List α) (hs : List (Hit α)) :
    hitCount (c :: cs) hs =
      ((hs.filter (·.ceilo = c)).map (·.dt)).eraseDups.length + hitCount cs hs := by
  simp [hitCount]

theorem hitCount_eq_distinct_pairs {α} [DecidableEq α] (cs : List α) (hs : List (Hit α))
    (hnd : cs.Nodup) (hcov : ∀ h ∈ hs, h.ceilo ∈ cs) :
    hitCount cs hs = ((hs.map fun h => (h.ceilo, h.dt)).eraseDups).length := by
  -- both sides count the list of pairs `(c, d)`, `c ∈ cs`, `d` a distinct time stamp of `c`
  have hp : ((hs.map fun h => (h.ceilo, h.dt)).eraseDups).Perm
      (cs.flatMap fun c => (((hs.filter (·.ceilo = c)).map (·.dt)).eraseDups).map (Prod.mk c)) := by
    refine (List.perm_ext_iff_of_nodup (eraseDups_nodup _) ?_).mpr ?_
    · refine List.nodup_flatMap.mpr ⟨fun c _ => (eraseDups_nodup _).map (fun _ _ e => (Prod.mk.inj e).2), ?_⟩
      refine hnd.imp fun {a b} hab => ?_
      intro p ha hb
      obtain ⟨_, _, rfl⟩ := List.mem_map.mp ha
      obtain ⟨_, _, e⟩ := List.mem_map.mp hb
      exact hab (Prod.mk.inj e).1.symm
    · rintro ⟨c, d⟩
      simp only [List.mem_eraseDups, List.mem_map, List.mem_flatMap, List.mem_filter, Prod.mk.injEq,
        decide_eq_true_eq]
      constructor
      · rintro ⟨h, hm, rfl, rfl⟩
        exact ⟨_, hcov h hm, _, ⟨h, ⟨hm, rfl⟩, rfl⟩, rfl, rfl⟩
      · rintro ⟨_, _, _, ⟨h, ⟨hm, rfl⟩, rfl⟩, rfl, rfl⟩
        exact ⟨h, hm, rfl, rfl⟩
  rw [hp.length_eq, List.length_flatMap]
  simp only [List.length_map]
  rfl

theorem ceilos_nodup {α} [DecidableEq α] (data : List (Hit α)) : (ceilos data).Nodup :=
  eraseDups_nodup _

theorem mem_ceilos {α} [DecidableEq α] (data : List (Hit α)) (h : Hit α) (hm : h ∈ data) :
    h.ceilo ∈ ceilos data := by
  unfold ceilos
  rw [List.mem_eraseDups]
  exact List.mem_map.mpr ⟨h, hm, rfl⟩

theorem members_sublist {α} (data : List (Hit α)) (ids : List Int) (cid : Int) :
    (members data ids cid).Sublist data := by
  unfold members
  induction data generalizing ids with
  | nil => simp
  | cons h t ih =>
    cases ids with
    | nil => simp
    | cons i is =>
      rw [List.zip_cons_cons, List.filterMap_cons]
      by_cases hi : i = cid
      · simp only [hi, if_true]
        exact (ih is).cons_cons h
      · simp only [hi, if_false]
        exact (ih is).cons h

theorem hitCount_le_of_sublist {α} [DecidableEq α] (cs : List α) (a b : List (Hit α)) (h : a.Sublist b) :
    hitCount cs a ≤ hitCount cs b := by
  induction cs with
  | nil => simp [hitCount]
  | cons c cs ih =>
    rw [hitCount_cons, hitCount_cons]
    apply Nat.add_le_add _ ih
    apply eraseDups_length_le_of_subset
    exact ((h.filter _).map _).subset

/-- Closed form of the okta computed by `_calculate_cloud_amount` (no error branch is reachable
for `n ≤ M`, `0 < M`). -/
theorem oktaOf_eq (n M : Nat) (t0 t8 : Rat) (hM : 0 < M) (h : n ≤ M) :
    oktaOf n M t0 t8 = .ok (if (n : Rat) ≤ t0 then 0
      else if (((M : Int) - (n : Int) : Int) : Rat) ≤ t8 then 8
      else oktaOfPerc ((n : Rat) / (M : Rat) * 100)) := by
  unfold oktaOf
  by_cases h0 : (n : Rat) ≤ t0
  · rw [if_pos h0, if_pos h0]
  · rw [if_neg h0, if_neg h0]
    by_cases h8 : (((M : Int) - (n : Int) : Int) : Rat) ≤ t8
    · rw [if_pos h8, if_pos h8]
    · rw [if_neg h8, if_neg h8]
      unfold perc2oktaNM perc2okta
      rw [if_pos (percNM_range hM h)]

/-- The shape of `oktaOf` (0 if `A`, else 8 if `B`, else `g`) is monotone when `A` gets harder, `B` easier and `g` grows
within `0..8`. -/
theorem ite3_le {A A' B B' : Prop} [Decidable A] [Decidable A'] [Decidable B] [Decidable B'] {g g' : Int}
    (hA : A' → A) (hB : B → B') (h0 : 0 ≤ g') (h8 : g ≤ 8) (hg : g ≤ g') :
    (if A then 0 else if B then 8 else g) ≤ (if A' then 0 else if B' then 8 else g') := by
  by_cases a : A
  · rw [if_pos a]
    split
    · exact Int.le_refl 0
    · split
      · decide
      · exact h0
  · rw [if_neg a, if_neg (mt hA a)]
    by_cases b : B
    · rw [if_pos b, if_pos (hB b)]
    · rw [if_neg b]
      split
      · exact h8
      · exact hg

theorem oktaOf_post {n M : Nat} {t0 t8 : Rat} {k : Int} (h : oktaOf n M t0 t8 = .ok k) :
    k = (if (n : Rat) ≤ t0 then 0
      else if (((M : Int) - (n : Int) : Int) : Rat) ≤ t8 then 8
      else match perc2oktaNM n M with | .ok k => k | .error _ => -99) := by
  unfold oktaOf at h
  split at h <;> rename_i a
  · rw [if_pos a]; exact (Except.ok.inj h).symm
  · rw [if_neg a]
    split at h <;> rename_i b
    · rw [if_pos b]; exact (Except.ok.inj h).symm
    · rw [if_neg b, h]

theorem oktaOf_range (n M : Nat) (t0 t8 : Rat) (hM : 0 < M) (h : n ≤ M) (a : Int)
    (ha : oktaOf n M t0 t8 = .ok a) : 0 ≤ a ∧ a ≤ 8 := by
  rw [oktaOf_eq n M t0 t8 hM h] at ha
  injection ha with ha
  subst ha
  have := oktaOfPerc_range (percNM_range hM h).1 (percNM_range hM h).2
  split
  · omega
  · split <;> omega

end Ampy
