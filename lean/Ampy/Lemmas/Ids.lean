import Ampy.Lemmas.Cascade
import Ampy.Lemmas.CascadeHyps
import Ampy.Lemmas.Scaler
/-!
The id columns of `find_slices` and of the bundles of `find_groups`: `scatterLabels` writes one id per row, the
labels on the rows with a height; the points handed to a clustering are one per such row; the majority vote only
writes slice ids onto rows with a height. `sliceIds_sat` and `groupBundle_sat`: what the two return, when they refuse.
-/
namespace Ampy

theorem fillIds_length (l : List (Option Int)) (ids : List Int) : (fillIds l ids).length = min l.length ids.length := by
  simp [fillIds]

theorem fillIds_getElem? (l : List (Option Int)) (ids : List Int) (i : Nat) (v : Int) :
    (fillIds l ids)[i]? = some v ↔ ∃ x g, l[i]? = some x ∧ ids[i]? = some g ∧ v = x.getD g := by
  unfold fillIds
  rw [List.getElem?_map, Option.map_eq_some_iff]
  constructor
  · rintro ⟨⟨x, g⟩, hp, rfl⟩
    obtain ⟨h1, h2⟩ := List.getElem?_zip_eq_some.mp hp
    exact ⟨x, g, h1, h2, rfl⟩
  · rintro ⟨x, g, h1, h2, rfl⟩
    exact ⟨(x, g), List.getElem?_zip_eq_some.mpr ⟨h1, h2⟩, rfl⟩

theorem fillIds_row {l : List (Option Int)} {ids : List Int} {i : Nat} {x : Option Int} {g : Int}
    (hx : l[i]? = some x) (hg : ids[i]? = some g) (v : Int) : (fillIds l ids)[i]? = some v ↔ v = x.getD g := by
  rw [fillIds_getElem?]
  constructor
  · rintro ⟨x', g', hx', hg', rfl⟩
    rw [Option.some.inj (hx.symm.trans hx'), Option.some.inj (hg.symm.trans hg')]
  · exact fun hv => ⟨x, g, hx, hg, hv⟩

theorem fillIds_exact {α} {data : List (Hit α)} {ids : List Int} {l : List (Option Int)} (hx : IdsExact data ids)
    (hl : l.length = data.length)
    (h : ∀ (i : Nat) (v : Int), l[i]? = some (some v) → 0 ≤ v ∧ ∃ g, ids[i]? = some g ∧ 0 ≤ g) :
    IdsExact data (fillIds l ids) := by
  refine ⟨by rw [fillIds_length, hl, hx.len, Nat.min_self], ?_⟩
  rintro ⟨hit, v⟩ hp
  obtain ⟨i, hi⟩ := List.mem_iff_getElem?.mp hp
  obtain ⟨hd, hv⟩ := List.getElem?_zip_eq_some.mp hi
  obtain ⟨x, g, hxi, hgi, rfl⟩ := (fillIds_getElem? l ids i v).mp hv
  have hmem : (hit, g) ∈ data.zip ids := List.mem_iff_getElem?.mpr ⟨i, List.getElem?_zip_eq_some.mpr ⟨hd, hgi⟩⟩
  cases x with
  | none => exact hx.valid _ hmem
  | some w =>
    obtain ⟨hw, g', hg', h0⟩ := h i w hxi
    obtain rfl : g' = g := Option.some.inj (hg'.symm.trans hgi)
    refine ⟨fun _ => hw, fun hnone => ?_⟩
    have := (hx.valid _ hmem).2 hnone
    simp only at this
    omega

theorem scatGo_exact {α} (data : List (Hit α)) : ∀ (labels : List Int)
    (_ : labels.length = (data.filter (·.height.isSome)).length) (_ : ∀ l ∈ labels, 0 ≤ l),
    IdsExact data (scatGo (-1) data labels) := by
  induction data with
  | nil => exact fun _ _ _ => ⟨rfl, fun p hp => nomatch hp⟩
  | cons h t ih =>
    intro labels hl hnn
    cases hh : h.height with
    | none =>
      rw [List.filter_cons_of_neg (by simp [hh])] at hl
      simp only [scatGo, hh]
      exact (ih labels hl hnn).cons ⟨fun h1 => by simp [hh] at h1, fun _ => rfl⟩
    | some y =>
      rw [List.filter_cons_of_pos (by simp [hh])] at hl
      cases labels with
      | nil => simp at hl
      | cons l r =>
        simp only [scatGo, hh]
        exact (ih r (by simpa using hl) fun x hx => hnn x (List.mem_cons_of_mem _ hx)).cons
          ⟨fun _ => hnn l List.mem_cons_self, fun h1 => by simp [hh] at h1⟩

theorem scatGo_nil {α} (d : Int) (data : List (Hit α)) : scatGo d data [] = data.map fun _ => d := by
  induction data with
  | nil => rfl
  | cons h t ih =>
    unfold scatGo
    cases h.height with
    | none => simp only [ih, List.map_cons]
    | some y => simp only [ih, List.map_cons]

theorem scatterLabels_exact {α} (data : List (Hit α)) (labels : List Int)
    (hl : labels.length = (data.filter (·.height.isSome)).length) (hnn : ∀ l ∈ labels, 0 ≤ l) :
    IdsExact data (scatterLabels data labels (-1)) :=
  scatterLabels_eq data labels (-1) ▸ scatGo_exact data labels hl hnn

theorem specOK_shift (s : Option Rat) (k : Rat) : specOK (.shift s k) := trivial

theorem applyScaling_sat (vals : List (Option Rat)) (spec : ScaleSpec) :
    Sat (applyScaling vals spec) (fun out => ∃ f : Rat → Rat, out = vals.map (Option.map f))
      (fun _ => ¬ specOK spec) := by
  cases h : applyScaling vals spec with
  | ok out => exact ⟨_, ((applyScaling_eq_ok_iff vals spec out).mp h).2⟩
  | error e => exact fun hok => ok_ne_error ((applyScaling_eq_ok_iff vals spec _).mpr ⟨fun _ => hok, rfl⟩) h

/-- With every row kept there is one scaled point per row with a height; only the height scaling can refuse. -/
theorem scaledPoints_sat {α} (data : List (Hit α)) (dtScale : Rat) (hSpec : ScaleSpec) (keep : List Bool) :
    Sat (scaledPoints data dtScale hSpec keep)
      (fun pts => keep = data.map (fun _ => true) → pts.length = (data.filter (·.height.isSome)).length)
      (fun _ => ¬ specOK hSpec) := by
  unfold scaledPoints
  refine Sat.bind ((applyScaling_sat (dts data) (.shift none dtScale)).mono (fun _ h => h)
      fun _ h => absurd (specOK_shift ..) h)
    fun sdt hf => Sat.bind (applyScaling_sat (heights data) hSpec) fun sh hg => ?_
  obtain ⟨f, rfl⟩ := hf
  obtain ⟨g, rfl⟩ := hg
  rintro rfl
  show (List.filterMap _ _).length = _
  rw [dts, heights, List.map_map, List.map_map, List.zip_map', List.zip_map', List.filterMap_map,
    List.length_filterMap_eq_countP, List.countP_eq_length_filter]
  congr 2
  funext h
  dsimp only [Function.comp]
  cases h.height with
  | none => rfl
  | some y => rfl

/-- The hypothesis on `K` sits inside the postcondition: `C08_slices_total` says `sliceIds` returns whatever `K`. -/
theorem sliceIds_sat {α} (K : Kern) (P : PPrms α) (data : List (Hit α)) :
    Sat (sliceIds K P data)
      (fun sids => (∀ l t pts, (K.cluster l t pts).length = pts.length) → IdsExact data sids)
      (fun _ => ¬ specOK P.sliceHScale) := by
  unfold sliceIds
  dsimp only
  split
  next h1 => exact Sat.pure fun _ => scatterLabels_exact data [1] (by simp [h1]) (by simp)
  next h1 =>
    split
    next =>
      refine Sat.bind (scaledPoints_sat ..) fun pts hpts => Sat.pure fun hc => ?_
      refine scatterLabels_exact data _ (by rw [List.length_map, hc, hpts rfl]) fun l hl => ?_
      obtain ⟨n, _, rfl⟩ := List.mem_map.mp hl
      exact Int.natCast_nonneg n
    next h2 =>
      -- neither one nor several rows with a height: none, and every row gets `-1`
      have hnil : (data.filter (·.height.isSome)).length = 0 :=
        Nat.eq_zero_of_not_pos fun h => h1 (Nat.le_antisymm (Nat.le_of_not_gt h2) h)
      rw [← scatGo_nil]
      exact Sat.pure fun _ => scatGo_exact data [] hnil.symm fun _ h => nomatch h

theorem sliceIds_exact {α} (K : Kern) (P : PPrms α) (data : List (Hit α)) (hK : KernOK K P.basePerc)
    (sids : List Int) (h : sliceIds K P data = .ok sids) : IdsExact data sids :=
  (sliceIds_sat K P data).of_ok h hK.cluster_len

theorem modeInt_mem (l : List Int) (m : Int) (h : modeInt l = some m) : m ∈ l := by
  unfold modeInt at h
  refine List.foldlRecOn (motive := fun best => ∀ m, best = some m → m ∈ l) _ _ (fun _ h => by cases h)
    (fun best hb c hc m hm => ?_) m h
  have hcl := (mem_uniqueSorted l c).mp hc
  cases best with
  | none => exact Option.some.inj hm ▸ hcl
  | some b =>
    dsimp only at hm
    split at hm
    · exact Option.some.inj hm ▸ hcl
    · exact hb m hm

/-- Invariant of the group column while `find_groups` fills it bundle by bundle. -/
structure PartialGidsOK {α} (data : List (Hit α)) (sids : List Int) (g : List (Option Int)) : Prop where
  len : g.length = data.length
  entry : ∀ i m, g[i]? = some (some m) →
    (∃ hi : i < data.length, data[i].height.isSome = true) ∧ 0 ≤ m ∧ m ∈ sids

theorem PartialGidsOK_init {α} (data : List (Hit α)) (sids : List Int) :
    PartialGidsOK data sids (data.map fun _ => none) := by
  refine ⟨by simp, fun i m hi => ?_⟩
  rw [List.getElem?_map] at hi
  obtain ⟨_, _, hv⟩ := Option.map_eq_some_iff.mp hi
  cases hv

theorem bundleRows_valid {α} (data : List (Hit α)) (inB : List Bool) (i : Nat) (h : i ∈ bundleRows data inB) :
    ∃ hi : i < data.length, data[i].height.isSome = true := by
  obtain ⟨x, hx, hfx⟩ := List.mem_filterMap.mp h
  obtain ⟨t, ht, rfl⟩ := List.mem_iff_getElem.mp hx
  simp only [List.length_zip, List.length_range] at ht
  simp only [List.getElem_zip, List.getElem_range] at hfx
  split at hfx
  next hc =>
    simp only [Option.some.injEq] at hfx
    subst hfx
    simp only [Bool.and_eq_true] at hc
    exact ⟨by omega, hc.2⟩
  next => cases hfx

theorem voteStep_partialGidsOK {α} (data : List (Hit α)) (sids : List Int) (hs : IdsExact data sids)
    (rowsIdx labels : List Nat) (hC : ∀ i ∈ rowsIdx, ∃ hi : i < data.length, data[i].height.isSome = true)
    (g : List (Option Int)) (c : Nat) (hg : PartialGidsOK data sids g) :
    PartialGidsOK data sids (voteStep sids rowsIdx labels g c) := by
  unfold voteStep
  have hC : ∀ i ∈ (rowsIdx.zip labels).filterMap (fun (x : Nat × Nat) => if x.2 = c then some x.1 else none),
      ∃ hi : i < data.length, data[i].height.isSome = true := fun i hi => by
    obtain ⟨x, hx, hfx⟩ := List.mem_filterMap.mp hi
    obtain ⟨_, he⟩ := Option.ite_none_right_eq_some.mp hfx
    exact Option.some.inj he ▸ hC _ (List.of_mem_zip hx).1
  generalize (rowsIdx.zip labels).filterMap (fun (x : Nat × Nat) => if x.2 = c then some x.1 else none) = rowsC at hC
  dsimp only
  split
  next m hm =>
    -- the most frequent slice id is the id of some row of the cluster, which has a height
    obtain ⟨j, hj, hjm⟩ := List.mem_filterMap.mp (modeInt_mem _ _ hm)
    obtain ⟨hjd, hjh⟩ := hC j hj
    obtain ⟨hjs, rfl⟩ := List.getElem?_eq_some_iff.mp hjm
    refine ⟨by rw [List.length_map, List.length_range]; exact hg.len, fun i m' hi => ?_⟩
    obtain ⟨_, hv⟩ := (getElem?_map_range_iff _ _ _ _).mp hi
    split at hv
    next hc =>
      obtain rfl := Option.some.inj hv
      exact ⟨hC i (List.contains_iff_mem.mp hc), (hs.valid _ (zip_getElem_mem data sids j hjd hjs)).1 hjh,
        List.getElem_mem hjs⟩
    next =>
      refine hg.entry i m' ?_
      rw [List.getD_eq_getElem?_getD] at hv
      cases hgi : g[i]? with
      | none => rw [hgi] at hv; cases hv
      | some v => rw [hgi] at hv; exact congrArg some hv.symm
  next => exact hg

theorem groupBundle_sat {α} (K : Kern) (P : PPrms α) (data : List (Hit α)) (sids : List Int) (slices : Table)
    (hs : IdsExact data sids) (bundle : List Nat) (g : List (Option Int)) (hg : PartialGidsOK data sids g) :
    Sat (groupBundle K P data sids slices bundle g) (PartialGidsOK data sids) (fun _ => False) := by
  rw [groupBundle_eq]
  refine Sat.bind ((scaledPoints_sat ..).mono (Q' := fun _ => True) (fun _ _ => trivial) fun _ h => h (specOK_shift ..))
    fun pts _ => ?_
  split
  · exact hg
  · exact List.foldlRecOn (motive := PartialGidsOK data sids) _ _ hg
      fun b hb c _ => voteStep_partialGidsOK data sids hs _ _ (bundleRows_valid data _) b c hb

end Ampy
