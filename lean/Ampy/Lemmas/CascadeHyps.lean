import Ampy.Lemmas.Metarize
import Ampy.Model.Pipeline
/-!
The hypotheses of the theorems about the cascade, and `minSepFor_sat`.
-/
namespace Ampy

/-- Shape of the third-party answers of the cascade (monitored on every scene). `q` is the percentile rank of
`MetKOK`; only `met` depends on it. -/
structure KernOK (K : Kern) (q : Rat) : Prop where
  met : MetKOK K.toMetK q
  /-- A1: one label per point -/
  cluster_len : ∀ l t pts, (K.cluster l t pts).length = pts.length
  /-- A2: one component per value, numbered below `n` -/
  gmm_len : ∀ s vals n, (K.gmm s vals n).labels.length = vals.length
  gmm_lt : ∀ s vals n, 1 ≤ n → ∀ l ∈ (K.gmm s vals n).labels, l < n
  bestProb_lt : ∀ ab mp, ab ≠ [] → K.bestProb ab mp < ab.length
  argsort_perm : ∀ l, isPermOf (K.argsort l) l.length = true
  argsort_sorted : ∀ l, (applyPerm (K.argsort l) l).Pairwise (· ≤ ·)
  prelimOrder_perm : ∀ l, isPermOf (K.prelimOrder l) l.length = true
  prelimOrder_sorted : ∀ l, (applyPerm (K.prelimOrder l) l).Pairwise (· ≤ ·)

/-- The strong form of `IdsOK`. -/
structure IdsExact {α} (data : List (Hit α)) (ids : List Int) : Prop where
  len : ids.length = data.length
  valid : ∀ p ∈ data.zip ids, (p.1.height.isSome = true → 0 ≤ p.2) ∧ (p.1.height = none → p.2 = -1)

theorem IdsExact.toOK {α} {data : List (Hit α)} {ids : List Int} (h : IdsExact data ids) : IdsOK data ids := by
  refine ⟨h.len, ?_, ?_⟩
  · intro i hi
    obtain ⟨k, hk, rfl⟩ := List.mem_iff_getElem.mp hi
    have hd : k < data.length := h.len ▸ hk
    have := h.valid _ (zip_getElem_mem data ids k hd hk)
    cases hh : data[k].height with
    | none => have := this.2 hh; simp only at this; omega
    | some y => have := this.1 (by simp [hh]); simp only at this; omega
  · intro p hp h0 hn
    have := (h.valid p hp).2 hn
    omega

theorem IdsExact.cons {α} {h : Hit α} {t : List (Hit α)} {ids : List Int} {v : Int} (ht : IdsExact t ids)
    (hv : (h.height.isSome = true → 0 ≤ v) ∧ (h.height = none → v = -1)) : IdsExact (h :: t) (v :: ids) := by
  refine ⟨by rw [List.length_cons, List.length_cons, ht.len], fun p hp => ?_⟩
  rw [List.zip_cons_cons, List.mem_cons] at hp
  rcases hp with rfl | hp
  · exact hv
  · exact ht.valid p hp

theorem IdsExact.map {α} {data : List (Hit α)} {ids : List Int} (h : IdsExact data ids) (f : Int → Int)
    (h0 : ∀ g ∈ ids, 0 ≤ g → 0 ≤ f g) (h1 : f (-1) = -1) : IdsExact data (ids.map f) := by
  refine ⟨by rw [List.length_map]; exact h.len, fun p hp => ?_⟩
  rw [List.zip_map_right] at hp
  obtain ⟨q, hq, rfl⟩ := List.mem_map.mp hp
  have hv := h.valid q hq
  exact ⟨fun hh => h0 q.2 (List.of_mem_zip hq).2 (hv.1 hh), fun hn => by
    show f q.2 = -1
    rw [hv.2 hn, h1]⟩

/-- `MIN_SEP_VALS` is one longer than `MIN_SEP_LIMS`. -/
def SepShape {α} (P : Prms α) : Prop := P.minSepLims.length + 1 = P.minSepVals.length

def SepNonneg {α} (P : Prms α) : Prop := ∀ v ∈ P.minSepVals, 0 ≤ v

/-- `_get_min_sep_for_height` returns the entry of `MIN_SEP_VALS` for the height bin of `h`; the length check is its
only refusal. -/
theorem minSepFor_sat {α} (P : Prms α) (h : Rat) :
    Sat (minSepFor P h)
      (fun v => SepShape P ∧ v ∈ P.minSepVals ∧ P.minSepVals[(P.minSepLims.filter (· < h)).length]? = some v)
      (fun e => ¬ SepShape P ∧ ∃ why, e = .ampy why) := by
  unfold minSepFor
  by_cases hs : P.minSepLims.length + 1 = P.minSepVals.length
  · have hlen : (P.minSepLims.filter (· < h)).length < P.minSepVals.length :=
      Nat.lt_of_le_of_lt (List.length_filter_le _ _) (Nat.lt_of_succ_le (Nat.le_of_eq hs))
    rw [if_neg (not_not.mpr hs), List.getElem?_eq_getElem hlen]
    exact ⟨hs, List.getElem_mem _, rfl⟩
  · rw [if_pos hs]
    exact ⟨hs, _, rfl⟩

def Separated {α} (P : Prms α) (bases : List Rat) : Prop :=
  ∀ i j (_ : i < j) (hj : j < bases.length),
    ∃ s, minSepFor P (bases[j]) = .ok s ∧ bases[j] - bases[i]'(by omega) ≥ s

def BasesCurrent {α} [DecidableEq α] (K : Kern) (P : PPrms α) (data : List (Hit α)) (gids : List Int)
    (prelim : List (Int × Rat)) : Prop :=
  ∀ e ∈ prelim, groupBase K P data gids e.1 = .ok e.2

/-- Parameter sets in which every leaf keeps its documented meaning. `t0`: a set holding more than `t0 ≥ 0` hits is
not empty, so its base height exists. `hscale`: only a `step` scaling can refuse (lengths, order of the steps). -/
structure PrmsOK {α} (P : PPrms α) : Prop where
  t0 : 0 ≤ P.t0
  sep : SepShape P.toPrms
  scores : P.gmmScores = "AIC" ∨ P.gmmScores = "BIC"
  mode : P.gmmMode = "delta" ∨ P.gmmMode = "prob"
  hscale : match P.sliceHScale with
    | .step st sc => st.length + 1 = sc.length ∧ sortedRat st = true
    | _ => True

/-- A3: the mixture finally selected has no empty component (the code boosts the score of the others to rule them out,
and `assert`s the outcome; monitored on every scene). -/
def SelectedPopulated {α} (K : Kern) (P : PPrms α) : Prop :=
  ∀ vals ncompMax n f, selectedFit K P vals ncompMax = some (n, f) → ∀ i, i < n → i ∈ f.labels

end Ampy
