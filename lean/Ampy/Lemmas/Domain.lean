import Ampy.Lemmas.Gmm
import Ampy.Lemmas.Ids
/-!
Behind C08 (kernel pre-conditions): two kernels that agree on the documented domains give the same answer at every
stage of the cascade (`C08_kernel_domains` composes the stages into the same run), so what a kernel would answer or
raise outside its domain is never observed.  Five call sites have a domain, each with a lemma showing the guard in
front of it; the rest is congruence, used right to left (`← …_agree`) because a guard is a fact about arguments
computed with `K`.
-/
namespace Ampy

/-- Agreement of two kernels where the cascade may call them: `cluster` on ≥ 2 points (scikit-learn refuses fewer);
`gmm` on ≥ 30 values with `1 ≤ n ≤ 3` (the documented `n ≤ #distinct values` is NOT assumed: a larger domain); `pctl`
on a non-empty array; `lowess` on ≥ 2 points; the sorts, `argsort`, `bestProb` (`best_gmm`) on any argument. -/
structure KernAgree (K K' : Kern) : Prop where
  dtOrder : ∀ l, K.dtOrder l = K'.dtOrder l
  baseOrder : ∀ l, K.baseOrder l = K'.baseOrder l
  prelimOrder : ∀ l, K.prelimOrder l = K'.prelimOrder l
  ptsOrder : ∀ l, K.ptsOrder l = K'.ptsOrder l
  argsort : ∀ l, K.argsort l = K'.argsort l
  bestProb : ∀ l mp, K.bestProb l mp = K'.bestProb l mp
  pctl : ∀ l q, l ≠ [] → K.pctl l q = K'.pctl l q
  lowess : ∀ pts, 2 ≤ pts.length → K.lowess pts = K'.lowess pts
  cluster : ∀ lk thr pts, 2 ≤ pts.length → K.cluster lk thr pts = K'.cluster lk thr pts
  gmm : ∀ sc vals n, 30 ≤ vals.length → 1 ≤ n → n ≤ 3 → K.gmm sc vals n = K'.gmm sc vals n

/-- `ptsOrder` returns a permutation, so LOWESS gets as many points as the set has.  Not part of `MetKOK`: no table
theorem reads this order. -/
def PtsOrderOK (K : Kern) : Prop := ∀ l, isPermOf (K.ptsOrder l) l.length = true

theorem mapM_congr_mem {ε β γ} (f g : β → Except ε γ) :
    ∀ (l : List β), (∀ c ∈ l, f c = g c) → l.mapM f = l.mapM g
  | [], _ => by rw [List.mapM_nil, List.mapM_nil]
  | a :: l, h => by
    rw [List.mapM_cons, List.mapM_cons, h a List.mem_cons_self,
      mapM_congr_mem f g l (fun c hc => h c (List.mem_cons_of_mem _ hc))]

/-- `np.percentile` sits behind the emptiness test. -/
theorem calcBase_agree {K K' : Kern} (hA : KernAgree K K') (vals : List Rat) (lb q : Rat) :
    calcBase K.pctl vals lb q = calcBase K'.pctl vals lb q := by
  unfold calcBase
  dsimp only
  split
  · rfl
  next h => rw [hA.pctl _ _ (fun he => h (by rw [he]; rfl))]

theorem baseForMask_agree {α} {K K' : Kern} (hA : KernAgree K K') (P : Prms α) (data : List (Hit α))
    (mask : List Bool) : baseForMask K.toMetK P data mask = baseForMask K'.toMetK P data mask := by
  simp only [baseForMask, selectSorted, hA.dtOrder, calcBase_agree hA]

/-- LOWESS gets all the points: at least two, or no call when there is exactly one. -/
theorem fluffiness_agree {K K' : Kern} (hA : KernAgree K K') (hp : PtsOrderOK K) (pts : List (Rat × Rat))
    (hne : pts ≠ []) : fluffiness K.toMetK pts = fluffiness K'.toMetK pts := by
  unfold fluffiness
  split
  · rfl
  next h1 =>
    have hlen : (applyPerm (K.ptsOrder (pts.map (·.1))) pts).length = pts.length :=
      (applyPerm_perm _ _ (by have := hp (pts.map (·.1)); rwa [List.length_map] at this)).length_eq
    have h2 : 2 ≤ (applyPerm (K.ptsOrder (pts.map (·.1))) pts).length := by
      have := List.length_pos_iff.mpr hne
      omega
    simp only [← hA.ptsOrder, ← hA.lowess _ h2]

theorem mkRow_agree {α} [DecidableEq α] {K K' : Kern} (hA : KernAgree K K') (hp : PtsOrderOK K) (P : Prms α)
    (w : Which) (data : List (Hit α)) (ids : List Int) (cid : Int) (h : IdsOK data ids)
    (hc : cid ∈ clusterIds ids) :
    mkRow K.toMetK P w data ids cid = mkRow K'.toMetK P w data ids cid := by
  have hne : ((members data ids cid).filterMap fun h => h.height.map fun y => (h.dt, y)) ≠ [] := by
    obtain ⟨m, hm, y, hy⟩ := members_ne_nil data ids cid h hc
    exact List.ne_nil_of_mem (List.mem_filterMap.mpr ⟨m, hm, by rw [hy]; rfl⟩)
  simp only [mkRow, ← baseForMask_agree hA, ← fluffiness_agree hA hp _ hne]

theorem metarize_agree {α} [DecidableEq α] {K K' : Kern} (hA : KernAgree K K') (hp : PtsOrderOK K) (P : Prms α)
    (w : Which) (ld : Bool) (data : List (Hit α)) (ids : List Int) (h : IdsOK data ids) :
    metarize K.toMetK P w ld data ids = metarize K'.toMetK P w ld data ids := by
  simp only [metarize, mapM_congr_mem _ _ _ fun c hc => mkRow_agree hA hp P w data ids c h hc, hA.baseOrder]

/-- Clustering only with more than one valid hit, one point per such hit. -/
theorem sliceIds_agree {α} {K K' : Kern} (hA : KernAgree K K') (P : PPrms α) (data : List (Hit α)) :
    sliceIds K P data = sliceIds K' P data := by
  unfold sliceIds
  dsimp only
  split
  · rfl
  · split
    next hmany =>
      refine bind_congr_ok fun pts hpts => ?_
      have hl := (scaledPoints_sat data _ _ _).of_ok hpts rfl
      rw [hA.cluster _ _ _ (hl ▸ hmany)]
    · rfl

theorem groupBundle_agree {α} {K K' : Kern} (hA : KernAgree K K') (P : PPrms α) (data : List (Hit α))
    (sids : List Int) (slices : Table) (bundle : List Nat) (gids : List (Option Int)) :
    groupBundle K P data sids slices bundle gids = groupBundle K' P data sids slices bundle gids := by
  rw [groupBundle_eq, groupBundle_eq]
  refine bind_congr fun pts => ?_
  split
  · rfl
  next hfew => rw [hA.cluster _ _ _ (Nat.le_of_not_lt hfew)]

theorem groupBase_agree {α} [DecidableEq α] {K K' : Kern} (hA : KernAgree K K') (P : PPrms α)
    (data : List (Hit α)) : groupBase K P data = groupBase K' P data := by
  funext gids cid
  simp only [groupBase, baseForMask_agree hA]

theorem mergeLoop_agree {α} [DecidableEq α] {K K' : Kern} (hA : KernAgree K K') (P : PPrms α)
    (data : List (Hit α)) : ∀ (fuel : Nat) (gids : List Int) (prelim : List (Int × Rat)),
    mergeLoop K P data fuel gids prelim = mergeLoop K' P data fuel gids prelim
  | 0, _, _ => rfl
  | fuel + 1, gids, prelim => by
    simp only [mergeLoop_succ, groupBase_agree hA, mergeLoop_agree hA P data fuel]

theorem groupIds_agree {α} [DecidableEq α] {K K' : Kern} (hA : KernAgree K K') (P : PPrms α)
    (data : List (Hit α)) (sids : List Int) (slices : Table) :
    groupIds K P data sids slices = groupIds K' P data sids slices := by
  simp only [groupIds_eq, mergeCloseGroups_eq, groupBundle_agree hA, groupBase_agree hA, hA.prelimOrder,
    mergeLoop_agree hA]

/-- Fits on as many (rescaled) values as handed in, with `1 .. ncomp_max` components. -/
theorem gmmFits_agree {α} {K K' : Kern} (hA : KernAgree K K') (P : PPrms α) (vals : List Rat) (m : Nat)
    (h30 : 30 ≤ vals.length) (hm : m ≤ 3) : gmmFits K P vals m = gmmFits K' P vals m :=
  List.map_congr_left fun i hi => by
    have := List.mem_range.mp hi
    exact hA.gmm _ _ _ (le_of_le_of_eq h30 (gmmScaled_length P vals).symm) (by omega) (by omega)

theorem ncompFromGmm_agree {α} {K K' : Kern} (hA : KernAgree K K') (P : PPrms α) (vals : List Rat) (m : Nat)
    (minSep : Rat) (h30 : 30 ≤ vals.length) (hm : m ≤ 3) :
    ncompFromGmm K P vals m minSep = ncompFromGmm K' P vals m minSep := by
  have ht : gmmTail K P vals minSep = gmmTail K' P vals minSep := by
    funext fits best
    simp only [gmmTail, compBases, calcBase_agree hA, hA.argsort]
  have hb : gmmBest K P = gmmBest K' P := by
    funext abics
    simp only [gmmBest, hA.bestProb]
  rw [ncompFromGmm_eq, ncompFromGmm_eq, gmmFits_agree hA P vals m h30 hm, ht, hb]

theorem layerDecide_agree {α} {K K' : Kern} (hA : KernAgree K K') (P : PPrms α) (data : List (Hit α))
    (gids : List Int) : layerDecide K P data gids = layerDecide K' P data gids := by
  funext g
  have hh : groupHeights K data gids = groupHeights K' data gids := by
    funext cid
    simp only [groupHeights, hA.dtOrder]
  unfold layerDecide
  rw [hh]
  dsimp only
  split
  · rfl
  next hc =>
    simp only [Bool.or_eq_true, decide_eq_true_eq, not_or, not_lt] at hc
    exact bind_congr fun s => by rw [ncompFromGmm_agree hA P _ _ s hc.1.2 (Nat.min_le_right _ _)]

theorem layerIds_agree {α} [DecidableEq α] {K K' : Kern} (hA : KernAgree K K') (P : PPrms α)
    (data : List (Hit α)) (gids : List Int) (groups : Table) :
    layerIds K P data gids groups = layerIds K' P data gids groups := by
  have hs : layerStep K P data gids groups = layerStep K' P data gids groups := by
    funext st ind
    simp only [layerStep, grpPos, layerDecide_agree hA, hA.dtOrder]
  rw [layerIds_eq, layerIds_eq, hs]

theorem throw_bind {γ δ : Type} (e : AmpyErr) (g : γ → Except AmpyErr δ) :
    ((throw e : Except AmpyErr γ) >>= g) = Except.error e := rfl

end Ampy
