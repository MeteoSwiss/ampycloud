import Ampy.Spec.Table
import Ampy.Lemmas.Icao
import Ampy.Lemmas.Wmo
/-!
Lemmas behind C01 and C02.  Every question about a flagged row is answered by splitting the table at that
row (`Flagged.split`): the rows below it carry the flags of a table of their own, and the row is flagged iff
fewer than three flags are set below it and its okta reaches `2·cnt+1`.  Then the code string of a row
(`mkCode_post`, the padded digits, a group as six characters), and the message as a function of a well-formed
table (`metarMsg_eq`).
-/
namespace Ampy

/-- The statement of `TableOK.flags`. -/
abbrev Flagged (t : Table) : Prop := t.map (·.significant) = significantCloud (t.map (·.okta))

theorem Flagged.split {as : Table} {x : Row} {bs : Table} (h : Flagged (as ++ x :: bs)) :
    Flagged as ∧ (x.significant = true ↔ as.countP (·.significant) < 3 ∧
      x.okta ≥ 2 * ((as.countP (·.significant) : Nat) : Int) + 1) := by
  obtain ⟨fs, e⟩ := significantCloud_split (as.map (·.okta)) x.okta (bs.map (·.okta))
  unfold Flagged at h
  rw [List.map_append, List.map_append, List.map_cons, List.map_cons, e] at h
  obtain ⟨h1, h2⟩ := List.append_inj h (by rw [List.length_map, significantCloud_length, List.length_map])
  refine ⟨h1, ?_⟩
  rw [(List.cons.inj h2).1, ← h1, List.count_eq_countP, List.countP_map, decide_eq_true_iff]
  simp only [Function.comp_def, beq_true]

theorem Flagged.okta_pos {t : Table} (h : Flagged t) {r : Row} (hr : r ∈ t) (hs : r.significant = true) :
    r.okta ≥ 1 := by
  obtain ⟨as, bs, rfl⟩ := List.append_of_mem hr
  have := (h.split.2.mp hs).2
  omega

theorem filter_eq_append_cons {α} {p : α → Bool} {l L₁ L₂ : List α} {x : α} (h : l.filter p = L₁ ++ x :: L₂) :
    ∃ as bs, l = as ++ x :: bs ∧ as.filter p = L₁ := by
  obtain ⟨l₁, l₂, rfl, h₁, h₂⟩ := List.filter_eq_append_iff.mp h
  obtain ⟨m₁, m₂, rfl, hm, -, -⟩ := List.filter_eq_cons_iff.mp h₂
  exact ⟨l₁ ++ m₁, m₂, by simp, by
    rw [List.filter_append, h₁, List.filter_eq_nil_iff.mpr hm, List.append_nil]⟩

/-- The `i`-th row of any selection `q` of the flagged rows has at least `i` flags below it. -/
theorem Flagged.getElem_filter {t : Table} (h : Flagged t) (q : Row → Bool) (i : Nat)
    (hi : i < (t.filter fun r => r.significant && q r).length) :
    i < 3 ∧ ((t.filter fun r => r.significant && q r)[i]).okta ≥ 2 * (i : Int) + 1 := by
  have e := (List.take_append_drop i (t.filter fun r => r.significant && q r)).symm
  rw [List.drop_eq_getElem_cons hi] at e
  have hs := (Bool.and_eq_true_iff.mp (List.mem_filter.mp (List.getElem_mem hi)).2).1
  generalize (t.filter fun r => r.significant && q r)[i] = x at e hs ⊢
  obtain ⟨as, bs, rfl, hL⟩ := filter_eq_append_cons e
  have hx := h.split.2.mp hs
  have : i ≤ as.countP (·.significant) := by
    have := congrArg List.length hL
    rw [List.length_take_of_le (by omega), ← List.countP_eq_length_filter] at this
    rw [← this]
    exact List.countP_mono_left (fun r _ hr => (Bool.and_eq_true_iff.mp hr).1)
  omega

/-- While every okta stays below `2k+1`, at most `k` flags are set: each flag raises the bar by two. -/
theorem Flagged.count_le {t : Table} (h : Flagged t) (k : Nat) (hk : ∀ r ∈ t, r.okta ≤ 2 * (k : Int)) :
    t.countP (·.significant) ≤ k := by
  by_contra hc
  have hi : k < (t.filter fun r => r.significant && true).length := by
    simp only [Bool.and_true, ← List.countP_eq_length_filter]; omega
  have := (h.getElem_filter (fun _ => true) k hi).2
  have := hk _ (List.mem_filter.mp (List.getElem_mem hi)).1
  omega

theorem reported_length_le (msa : Option Rat) {t : Table} (h : TableOK t) : (reported msa t).length ≤ 3 := by
  by_contra hc
  have := (Flagged.getElem_filter h.flags (fun r => belowMsa msa r.base) 3 (by rw [← reported]; omega)).1
  omega

theorem reported_facts {msa : Option Rat} {t : Table} (h : TableOK t) {r : Row} (hr : r ∈ reported msa t) :
    r ∈ t ∧ r.significant = true ∧ belowMsa msa r.base = true ∧ r.okta ≥ 1 := by
  obtain ⟨hm, hp⟩ := List.mem_filter.mp hr
  obtain ⟨hs, hb⟩ := Bool.and_eq_true_iff.mp hp
  exact ⟨hm, hs, hb, Flagged.okta_pos h.flags hm hs⟩

theorem belowMsa_of_le {msa : Option Rat} {a b : Rat} (hab : a ≤ b) (h : belowMsa msa b = true) :
    belowMsa msa a = true := by
  cases msa with
  | none => rfl
  | some m =>
    simp only [belowMsa, decide_eq_true_eq] at h ⊢
    exact lt_of_le_of_lt hab h

/-- On a sorted flagged table, the lowest row below the MSA that reaches `2k+1` oktas (`k ≤ 2`) is flagged:
the rows under it stay below that mark, so at most `k` flags are set there.  `k = 0` is the lowest cloud
layer, `k = 2` the ceiling.  (False for even marks: of the oktas `[1, 2]` only the first is flagged.) -/
theorem first_reaching {t : Table} (h : TableOK t) {k : Nat} (hk : k ≤ 2) {msa : Option Rat} {x : Row}
    (hx : t.find? (fun r => decide (r.okta ≥ 2 * (k : Int) + 1) && belowMsa msa r.base) = some x) :
    ∃ as bs, t = as ++ x :: bs ∧ (∀ a ∈ as, a.okta ≤ 2 * (k : Int)) ∧
      x.significant = true ∧ belowMsa msa x.base = true := by
  obtain ⟨hq, as, bs, rfl, hn⟩ := List.find?_eq_some_iff_append.mp hx
  simp only [Bool.and_eq_true, decide_eq_true_eq] at hq
  have hlow : ∀ a ∈ as, a.okta ≤ 2 * (k : Int) := by
    intro a ha
    have hb := belowMsa_of_le ((List.pairwise_append.mp h.sorted).2.2 a ha x List.mem_cons_self) hq.2
    have := hn a ha
    simp only [hb, Bool.and_true, Bool.not_eq_true', decide_eq_false_iff_not] at this
    omega
  obtain ⟨hf, hc⟩ := Flagged.split h.flags
  have := hf.count_le k hlow
  exact ⟨as, bs, rfl, hlow, hc.mpr ⟨by omega, by omega⟩, hq.2⟩

theorem reported_ne_nil {msa : Option Rat} {t : Table} (h : TableOK t) {r : Row} (hr : r ∈ t)
    (ho : r.okta ≥ 1) (hb : belowMsa msa r.base = true) : reported msa t ≠ [] := by
  cases hx : t.find? (fun r => decide (r.okta ≥ 2 * ((0 : Nat) : Int) + 1) && belowMsa msa r.base) with
  | none => exact absurd (List.find?_eq_none.mp hx r hr) (by simpa [hb] using ho)
  | some x =>
    obtain ⟨as, bs, rfl, -, hs, hbx⟩ := first_reaching h (Nat.zero_le 2) hx
    exact List.ne_nil_of_mem (List.mem_filter.mpr ⟨List.mem_append_right _ List.mem_cons_self, by rw [hs, hbx]; rfl⟩)

theorem reported_nil_iff {msa : Option Rat} {t : Table} (h : TableOK t) :
    reported msa t = [] ↔ cloudBelow msa t = [] := by
  constructor
  · intro hr
    rw [cloudBelow, List.filter_eq_nil_iff]
    intro r hrt hp
    obtain ⟨ho, hb⟩ := Bool.and_eq_true_iff.mp hp
    exact reported_ne_nil h hrt (of_decide_eq_true ho) hb hr
  · intro hc
    rw [reported, List.filter_eq_nil_iff]
    intro r hrt hp
    obtain ⟨hs, hb⟩ := Bool.and_eq_true_iff.mp hp
    have : r ∈ cloudBelow msa t :=
      List.mem_filter.mpr ⟨hrt, by simpa [hb] using Flagged.okta_pos h.flags hrt hs⟩
    rw [hc] at this
    cases this

theorem mkCode_post (okta : Int) (base : Rat) (code : String) (h : mkCode okta base = .ok code) :
    ∃ p, okta2code (.int okta) = .ok (some p) ∧ code = p ++ height2code (some base) := by
  unfold mkCode at h
  split at h
  · rename_i c hc
    injection h with h
    exact ⟨c, hc, h.symm⟩
  · cases h
  · cases h

theorem padNat3_digits {k : Nat} (hk : k < 1000) : ∃ a b c, a < 10 ∧ b < 10 ∧ c < 10 ∧ k = a * 100 + b * 10 + c ∧
    padNat3 k = String.ofList [a.digitChar, b.digitChar, c.digitChar] :=
  ⟨k / 100, k / 10 % 10, k % 10, (Nat.div_lt_iff_lt_mul (by decide)).mpr hk, Nat.mod_lt _ (by decide),
    Nat.mod_lt _ (by decide), by omega, by rw [padNat3, if_pos hk]⟩

theorem code_take3 (p s : String) (hp : p.toList.length = 3) :
    String.ofList ((p ++ s).toList.take 3) = p := by
  rw [String.toList_append, List.take_left' hp, String.ofList_toList]

theorem code_drop3 (p s : String) (hp : p.toList.length = 3) :
    String.ofList ((p ++ s).toList.drop 3) = s := by
  rw [String.toList_append, List.drop_left' hp, String.ofList_toList]

theorem code_of_pos {t : Table} (h : TableOK t) {r : Row} (hr : r ∈ t) (ho : r.okta ≥ 1) :
    ∃ p, okta2code (.int r.okta) = .ok (some p) ∧ p ∈ ["FEW", "SCT", "BKN", "OVC"] ∧
      r.code = p ++ height2code (some r.base) := by
  obtain ⟨p, hp, hc⟩ := mkCode_post _ _ _ (h.codes r hr)
  obtain ⟨p', hp', ht⟩ := okta2code_table (h.oktas r hr).1 (h.oktas r hr).2
  cases hp.symm.trans hp'
  refine ⟨p, hp, ?_, hc⟩
  rcases ht with ⟨h0, _⟩ | ⟨_, _, rfl⟩ | ⟨_, _, rfl⟩ | ⟨_, _, rfl⟩ | ⟨_, rfl⟩
  · omega
  · simp
  · simp
  · simp
  · simp

theorem isGroup_of_pos {t : Table} (h : TableOK t) {r : Row} (hr : r ∈ t) (ho : r.okta ≥ 1) :
    IsGroup r.code := by
  obtain ⟨p, _, hp, hc⟩ := code_of_pos h hr ho
  have hb := h.bases r hr
  have hh := hh_range hb.1 hb.2
  obtain ⟨d0, d1, d2, h0, h1, h2, e⟩ := fmt03_three_digits hh.1 hh.2
  exact ⟨p, hp, d0, d1, d2, h0, h1, h2, by rw [hc]; simp [height2code, e]⟩

theorem prefix_chars {p : String} (hp : p ∈ ["FEW", "SCT", "BKN", "OVC"]) :
    ∃ a b c, p = String.ofList [a, b, c] ∧ a ≠ ' ' ∧ b ≠ ' ' ∧ c ≠ ' ' := by
  simp only [List.mem_cons, List.not_mem_nil, or_false] at hp
  rcases hp with rfl | rfl | rfl | rfl
  · exact ⟨'F', 'E', 'W', rfl, by decide, by decide, by decide⟩
  · exact ⟨'S', 'C', 'T', rfl, by decide, by decide, by decide⟩
  · exact ⟨'B', 'K', 'N', rfl, by decide, by decide, by decide⟩
  · exact ⟨'O', 'V', 'C', rfl, by decide, by decide, by decide⟩

/-- A group as six characters: what `isGroupB`, the length test of `metar_msg` and the split at spaces see. -/
theorem IsGroup.chars {g : String} (h : IsGroup g) : ∃ a b c d₀ d₁ d₂, g = String.ofList [a, b, c, d₀, d₁, d₂] ∧
    String.ofList [a, b, c] ∈ ["FEW", "SCT", "BKN", "OVC"] ∧ a ≠ ' ' ∧ b ≠ ' ' ∧ c ≠ ' ' ∧
    d₀.isDigit = true ∧ d₁.isDigit = true ∧ d₂.isDigit = true := by
  obtain ⟨p, hp, d₀, d₁, d₂, h₀, h₁, h₂, rfl⟩ := h
  obtain ⟨a, b, c, rfl, ha, hb, hc⟩ := prefix_chars hp
  exact ⟨a, b, c, d₀, d₁, d₂, by rw [← String.ofList_append]; rfl, hp, ha, hb, hc, h₀, h₁, h₂⟩

theorem reported_isGroup {msa : Option Rat} {t : Table} (h : TableOK t) {r : Row} (hr : r ∈ reported msa t) :
    IsGroup r.code :=
  isGroup_of_pos h (reported_facts h hr).1 (reported_facts h hr).2.2.2

theorem intercalate_length_ge (s g : String) (gs : List String) :
    g.length ≤ (s.intercalate (g :: gs)).length := by
  cases gs with
  | nil => simp
  | cons u l => simp [String.length_append]; omega

theorem reported_msg_length {msa : Option Rat} {t : Table} (h : TableOK t) (hr : reported msa t ≠ []) :
    6 ≤ (" ".intercalate ((reported msa t).map (·.code))).length := by
  obtain ⟨x, xs, hx⟩ := List.exists_cons_of_ne_nil hr
  obtain ⟨a, b, c, d₀, d₁, d₂, e, -⟩ := (reported_isGroup h (hx ▸ List.mem_cons_self : x ∈ reported msa t)).chars
  have := intercalate_length_ge " " x.code (xs.map (·.code))
  rw [e, String.length_ofList] at this
  rw [hx, List.map_cons, e]
  exact this

/-- Whether a layer of 1 okta or more sits at or above the MSA: the counterpart of `cloudBelow`, as the Bool the
monitor predicate `Spec.c02` computes. -/
abbrev cloudAbove (msa : Option Rat) (t : Table) : Bool :=
  t.any fun r => decide (r.okta ≥ 1) && !belowMsa msa r.base

/-- If a row of 1 okta or more exists at all, the lowest one is flagged; with nothing reportable it cannot be
below the MSA. -/
theorem flagged_above {msa : Option Rat} {t : Table} (h : TableOK t) (hr : reported msa t = []) :
    (t.any fun r => r.significant && !(belowMsa msa r.base)) = cloudAbove msa t := by
  rw [Bool.eq_iff_iff, List.any_eq_true, List.any_eq_true]
  constructor
  · rintro ⟨x, hx, hp⟩
    obtain ⟨hs, hb⟩ := Bool.and_eq_true_iff.mp hp
    exact ⟨x, hx, by simpa [hb] using Flagged.okta_pos h.flags hx hs⟩
  · rintro ⟨r, hrt, hp⟩
    have ho : r.okta ≥ 1 := of_decide_eq_true (Bool.and_eq_true_iff.mp hp).1
    obtain ⟨x, xs, hx⟩ := List.exists_cons_of_ne_nil (reported_ne_nil (msa := none) h hrt ho rfl)
    obtain ⟨hxt, hs, -, -⟩ := reported_facts h (hx ▸ List.mem_cons_self : x ∈ reported none t)
    refine ⟨x, hxt, ?_⟩
    cases hb : belowMsa msa x.base with
    | true =>
      have : x ∈ reported msa t := List.mem_filter.mpr ⟨hxt, by rw [hs, hb]; rfl⟩
      rw [hr] at this
      cases this
    | false => simp [hs]

/-- `metar_msg` on a well-formed table, in the vocabulary of the property. -/
theorem metarMsg_eq (msa : Option Rat) (flag : Bool) {t : Table} (h : TableOK t) :
    metarMsg msa flag t.length t =
      if reported msa t = [] then (if cloudAbove msa t || flag then "NSC" else "NCD")
      else " ".intercalate ((reported msa t).map (·.code)) := by
  unfold metarMsg
  by_cases ht : t = []
  · subst ht; cases flag <;> rfl
  rw [if_neg (by simpa using ht)]
  show (if (" ".intercalate ((reported msa t).map (·.code))).length = 0 then _ else _) = _
  by_cases hr : reported msa t = []
  · rw [if_pos hr, flagged_above h hr, hr]
    cases cloudAbove msa t <;> cases flag <;> rfl
  · have := reported_msg_length h hr
    rw [if_neg hr, if_neg (by omega)]
    rfl

theorem msg_ne_fallback {msa : Option Rat} (flag : Bool) {t : Table} (h : TableOK t)
    (hr : reported msa t ≠ []) :
    metarMsg msa flag t.length t ≠ "NCD" ∧ metarMsg msa flag t.length t ≠ "NSC" := by
  have := reported_msg_length h hr
  rw [metarMsg_eq msa flag h, if_neg hr]
  constructor <;> (intro e; rw [e] at this; exact absurd this (by decide))

/-- Both fallbacks in one statement: `b = true` stands for `NSC`, `b = false` for `NCD`; instantiate `b` and the
left side reduces to `… = "NSC"` / `… = "NCD"` by `rfl`. -/
theorem msg_fallback_iff (msa : Option Rat) (flag : Bool) {t : Table} (h : TableOK t) (b : Bool) :
    metarMsg msa flag t.length t = (if b then "NSC" else "NCD") ↔
      reported msa t = [] ∧ (cloudAbove msa t || flag) = b := by
  by_cases hr : reported msa t = []
  · have e : ∀ x : Bool, (if x then "NSC" else "NCD") = (if b then "NSC" else "NCD") ↔ x = b := by
      intro x; cases x <;> cases b <;> decide
    rw [metarMsg_eq msa flag h, if_pos hr, e]
    exact (and_iff_right hr).symm
  · have := msg_ne_fallback flag h hr
    cases b
    · exact iff_of_false this.1 fun e => hr e.1
    · exact iff_of_false this.2 fun e => hr e.1

theorem no_cloud_iff (msa : Option Rat) (t : Table) :
    (∀ r ∈ t, r.okta ≤ 0) ↔ cloudBelow msa t = [] ∧ cloudAbove msa t = false := by
  simp only [cloudBelow, cloudAbove, List.filter_eq_nil_iff, List.any_eq_false, ← forall_and]
  refine forall_congr' fun r => forall_congr' fun _ => ?_
  -- row by row: a row is below the MSA or not, and only the matching test looks at its okta
  cases belowMsa msa r.base
  · simp; omega
  · simp; omega

end Ampy
