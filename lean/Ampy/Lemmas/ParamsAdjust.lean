import Ampy.Lemmas.ParamsTree
/-!
`utils.adjust_nested_dict` (`adjustTree` / `adjustEntries`).  One run is followed through `adjust_induct`: `adjust_all`
(tags), `adjust_strip` (only contents matter), `adjust_keys`, `adjust_of_valid` (shape and warnings) and
`adjust_lookup_unnamed` are instances.  Recursions of their own: `congr_of_sameShape` (about `valid`/`unknown`, not a
run), `override_blind_*` (two runs in step), `setPath_eq_adjust` (along the path).
-/
namespace Ampy

mutual
/-- `new` holds a dict only where `ref` has one, a non-dict only where `ref` has one; unknown keys anywhere. -/
def PTree.valid : PTree → PTree → Bool
  | .dict _ res, .dict _ nes => PEntries.valid res nes
  | _, _ => false
def PEntries.valid (res : PEntries) : PEntries → Bool
  | .nil => true
  | .cons k item rest =>
    (match res.lookup k, item with
     | none, _ => true
     | some cur, .dict i nes => PTree.valid cur (.dict i nes)
     | some (.dict _ _), _ => false
     | some _, _ => true) && PEntries.valid res rest
end

mutual
/-- Same key tree: dicts with the same keys in the same order, recursively; non-dicts match non-dicts. -/
def PTree.sameShape : PTree → PTree → Bool
  | .dict _ a, .dict _ b => PEntries.sameShape a b
  | .dict _ _, _ => false
  | _, .dict _ _ => false
  | _, _ => true
def PEntries.sameShape : PEntries → PEntries → Bool
  | .nil, .nil => true
  | .cons k v r, .cons k' v' r' => k == k' && PTree.sameShape v v' && PEntries.sameShape r r'
  | _, _ => false
end

def hasDupStr : List String → Bool
  | [] => false
  | a :: r => r.contains a || hasDupStr r

mutual
def PTree.eqb : PTree → PTree → Bool
  | .leaf a, .leaf b => a == b
  | .list i a, .list j b => i == j && a == b
  | .dict i a, .dict j b => i == j && PEntries.eqb a b
  | _, _ => false
def PEntries.eqb : PEntries → PEntries → Bool
  | .nil, .nil => true
  | .cons k v r, .cons k' v' r' => k == k' && PTree.eqb v v' && PEntries.eqb r r'
  | _, _ => false
end

mutual
/-- Keys are pairwise distinct in every dict (true of every Python dict). -/
def PTree.nodupKeys : PTree → Bool
  | .dict _ es => !(hasDupStr es.keys) && PEntries.nodupKeys es
  | _ => true
def PEntries.nodupKeys : PEntries → Bool
  | .nil => true
  | .cons _ v rest => PTree.nodupKeys v && PEntries.nodupKeys rest
end

mutual
/-- Number of keys of `new`, at any depth reached, that the reference does not have. -/
def PTree.unknown : PTree → PTree → Nat
  | .dict _ res, .dict _ nes => PEntries.unknown res nes
  | _, _ => 0
def PEntries.unknown (res : PEntries) : PEntries → Nat
  | .nil => 0
  | .cons k item rest =>
    (match res.lookup k with
     | none => 1
     | some cur => PTree.unknown cur item) + PEntries.unknown res rest
end

mutual
/-- `g₁` and `g₂` agree everywhere except, possibly, on the leaves that `new` names. -/
def PTree.agreeOff : PTree → PTree → PTree → Bool
  | .dict _ nes, .dict _ a, .dict _ b => PEntries.agreeOff nes a b
  | _, _, _ => false
def PEntries.agreeOff (nes : PEntries) : PEntries → PEntries → Bool
  | .nil, .nil => true
  | .cons k v r, .cons k' v' r' =>
    k == k' &&
    (match nes.lookup k with
     | none => PTree.eqb v.strip v'.strip
     | some (.dict i sub) => PTree.agreeOff (.dict i sub) v v'
     | some _ => PTree.sameShape v v') &&
    PEntries.agreeOff nes r r'
  | _, _ => false
end

section unfold
variable {res rest nes es : PEntries} {k : String} {item cur ref n : PTree} {l lv lv' w : List String} {cr : Bool}
  {o : AdjOut} {rid nid i : Nat}

theorem adjustTree_dict (h : adjustEntries res nes l = (es, w, cr, lv)) :
    adjustTree (.dict rid res) (.dict nid nes) l = (⟨.dict rid es, w, cr⟩, lv) := by
  simp only [adjustTree, h]

theorem adjustTree_empty (h : ref.isDict = false) : adjustTree ref (.dict nid .nil) l = (⟨ref, [], false⟩, l) := by
  cases ref <;> simp [adjustTree, PTree.isDict] at h ⊢

theorem adjustTree_ref_nondict (h : ref.isDict = false) :
    adjustTree ref (.dict nid (.cons k item rest)) l = (⟨ref, [], true⟩, l) := by
  cases ref <;> simp [adjustTree, PTree.isDict] at h ⊢

theorem adjustTree_new_nondict (h : n.isDict = false) : adjustTree ref n l = (⟨ref, [], true⟩, l) := by
  cases n <;> cases ref <;> simp [adjustTree, PTree.isDict] at h ⊢

theorem adjustEntries_absent (hl : res.lookup k = none) (h : adjustEntries res rest (l ++ [k]) = (es, w, cr, lv)) :
    adjustEntries res (.cons k item rest) l = (es, ".".intercalate (l ++ [k]) :: w, cr, lv) := by
  simp only [adjustEntries, hl, h]

theorem adjustEntries_store (hl : res.lookup k = some cur) (hi : item.isDict = false) :
    adjustEntries res (.cons k item rest) l = adjustEntries (res.set k item) rest (l ++ [k]) := by
  cases item <;> simp [adjustEntries, hl, PTree.isDict] at hi ⊢

theorem adjustEntries_sub_crash (hl : res.lookup k = some cur) (ho : adjustTree cur (.dict i nes) (l ++ [k]) = (o, lv))
    (hc : o.crashed = true) :
    adjustEntries res (.cons k (.dict i nes) rest) l = (res.set k o.tree, o.warnings, true, lv) := by
  simp only [adjustEntries, hl, ho, hc, if_true]

theorem adjustEntries_sub (hl : res.lookup k = some cur) (ho : adjustTree cur (.dict i nes) (l ++ [k]) = (o, lv))
    (hc : o.crashed = false) (h : adjustEntries (res.set k o.tree) rest lv = (es, w, cr, lv')) :
    adjustEntries res (.cons k (.dict i nes) rest) l = (es, o.warnings ++ w, cr, lv') := by
  simp only [adjustEntries, hl, ho, hc, h, Bool.false_eq_true, if_false]

end unfold

/-- Induction along a run: one case per branch of the code, with what the run returns there. -/
theorem adjust_induct {P : PTree → PTree → List String → AdjOut × List String → Prop}
    {Q : PEntries → PEntries → List String → PEntries × List String × Bool × List String → Prop}
    (dict : ∀ rid res nid nes l es w cr lv, Q res nes l (es, w, cr, lv) →
      P (.dict rid res) (.dict nid nes) l (⟨.dict rid es, w, cr⟩, lv))
    (empty : ∀ ref nid l, ref.isDict = false → P ref (.dict nid .nil) l (⟨ref, [], false⟩, l))
    (ref_nondict : ∀ ref nid k item rest l, ref.isDict = false →
      P ref (.dict nid (.cons k item rest)) l (⟨ref, [], true⟩, l))
    (new_nondict : ∀ ref n l, n.isDict = false → P ref n l (⟨ref, [], true⟩, l))
    (nil : ∀ res l, Q res .nil l (res, [], false, l))
    (absent : ∀ res k item rest l es w cr lv, res.lookup k = none → Q res rest (l ++ [k]) (es, w, cr, lv) →
      Q res (.cons k item rest) l (es, ".".intercalate (l ++ [k]) :: w, cr, lv))
    (store : ∀ res k item rest l cur out, res.lookup k = some cur → item.isDict = false →
      Q (res.set k item) rest (l ++ [k]) out → Q res (.cons k item rest) l out)
    (sub_crash : ∀ res k i nes rest l cur o lv, res.lookup k = some cur →
      adjustTree cur (.dict i nes) (l ++ [k]) = (o, lv) → P cur (.dict i nes) (l ++ [k]) (o, lv) → o.crashed = true →
      Q res (.cons k (.dict i nes) rest) l (res.set k o.tree, o.warnings, true, lv))
    (sub : ∀ res k i nes rest l cur o lv es w cr lv', res.lookup k = some cur →
      adjustTree cur (.dict i nes) (l ++ [k]) = (o, lv) → P cur (.dict i nes) (l ++ [k]) (o, lv) → o.crashed = false →
      Q (res.set k o.tree) rest lv (es, w, cr, lv') →
      Q res (.cons k (.dict i nes) rest) l (es, o.warnings ++ w, cr, lv')) :
    (∀ r n l, P r n l (adjustTree r n l)) ∧ ∀ res nes l, Q res nes l (adjustEntries res nes l) := by
  apply adjustTree.mutual_induct
  · intro rid res nid nes l es w cr lv h ih
    rw [adjustTree_dict h]; rw [h] at ih; exact dict _ _ _ _ _ _ _ _ _ ih
  · intro ref nid l hr
    have hr := (PTree.isDict_false_iff _).2 hr
    rw [adjustTree_empty hr]; exact empty _ _ _ hr
  · intro ref nid nes l hr hnes
    cases nes with
    | nil => exact absurd rfl hnes
    | cons k item rest =>
      have hr := (PTree.isDict_false_iff _).2 hr
      rw [adjustTree_ref_nondict hr]; exact ref_nondict _ _ _ _ _ _ hr
  · intro new ref l _ _ hn  -- the generated case lists `new` first
    have hn := (PTree.isDict_false_iff _).2 hn
    rw [adjustTree_new_nondict hn]; exact new_nondict _ _ _ hn
  · exact nil
  · intro res k item rest l _ hl es w cr lv h ih
    rw [adjustEntries_absent hl h]; rw [h] at ih; exact absent _ _ _ _ _ _ _ _ _ hl ih
  · intro res k rest l _ cur hl i nes o lv hc ho ih
    rw [adjustEntries_sub_crash hl ho hc]; rw [ho] at ih; exact sub_crash _ _ _ _ _ _ _ _ _ hl ho ih hc
  · intro res k rest l _ cur hl i nes o lv hc es w cr lv' h ho ihT ihE
    rw [Bool.not_eq_true] at hc
    rw [adjustEntries_sub hl ho hc h]; rw [ho] at ihT; rw [h] at ihE
    exact sub _ _ _ _ _ _ _ _ _ _ _ _ _ hl ho ihT hc ihE
  · intro res k item rest l _ cur hl es w cr lv h hi ih
    have hi := (PTree.isDict_false_iff _).2 hi
    rw [adjustEntries_store hl hi]; exact store _ _ _ _ _ _ _ hl hi ih

section
variable {P Q T : Nat → Prop}

/-- `adjust` stores list nodes of `new` in the reference, never its dict nodes. -/
theorem adjust_all :
    (∀ (r n : PTree) (l : List String), r.All P Q → n.All T Q → (adjustTree r n l).1.tree.All P Q) ∧
    (∀ (res nes : PEntries) (l : List String), res.All P Q → nes.All T Q → (adjustEntries res nes l).1.All P Q) := by
  apply adjust_induct (P := fun r n _ out => r.All P Q → n.All T Q → out.1.tree.All P Q)
    (Q := fun res nes _ out => res.All P Q → nes.All T Q → out.1.All P Q)
  case dict =>
    intro rid res nid nes l es w cr lv ih hr hn
    rw [PTree.All.dict_iff] at hr hn ⊢
    exact ⟨hr.1, ih hr.2 hn.2⟩
  case empty => intro ref nid l _ hr _; exact hr
  case ref_nondict => intro ref nid k item rest l _ hr _; exact hr
  case new_nondict => intro ref n l _ hr _; exact hr
  case nil => intro res l hr _; exact hr
  case absent =>
    intro res k item rest l es w cr lv _ ih hr hn
    exact ih hr ((PEntries.All.cons_iff ..).1 hn).2
  case store =>
    intro res k item rest l cur out _ hi ih hr hn
    rw [PEntries.All.cons_iff] at hn
    exact ih (hr.set k (hn.1.of_nondict hi)) hn.2
  case sub_crash =>
    intro res k i nes rest l cur o lv hl _ ih _ hr hn
    rw [PEntries.All.cons_iff] at hn
    exact hr.set k (ih (hr.lookup hl) hn.1)
  case sub =>
    intro res k i nes rest l cur o lv es w cr lv' hl _ ihT _ ihE hr hn
    rw [PEntries.All.cons_iff] at hn
    exact ihE (hr.set k (ihT (hr.lookup hl) hn.1)) hn.2

end

theorem adjustEntries_ids : ∀ (nes res : PEntries) (l : List String),
    (∀ i ∈ (adjustEntries res nes l).1.ids, i ∈ res.ids ∨ i ∈ nes.listIds) ∧
    (∀ i ∈ (adjustEntries res nes l).1.dictIds, i ∈ res.dictIds) := by
  intro nes res l
  have h := (adjust_all (P := (· ∈ res.dictIds)) (Q := fun i => i ∈ res.listIds ∨ i ∈ nes.listIds)
    (T := fun _ => True)).2 res nes l ⟨fun _ h => h, fun _ h => Or.inl h⟩ ⟨fun _ _ => trivial, fun _ h => Or.inr h⟩
  refine ⟨fun i hi => ?_, h.1⟩
  rw [PEntries.mem_ids] at hi ⊢
  rcases hi with hi | hi
  · exact Or.inl (Or.inl (h.1 i hi))
  · exact (h.2 i hi).imp Or.inr id

theorem adjust_strip :
    (∀ (r n : PTree) (l : List String), adjustTree r.strip n.strip l =
      (⟨(adjustTree r n l).1.tree.strip, (adjustTree r n l).1.warnings, (adjustTree r n l).1.crashed⟩,
        (adjustTree r n l).2)) ∧
    (∀ (res nes : PEntries) (l : List String),
      adjustEntries res.strip nes.strip l = ((adjustEntries res nes l).1.strip, (adjustEntries res nes l).2)) := by
  apply adjust_induct
    (P := fun r n l out => adjustTree r.strip n.strip l = (⟨out.1.tree.strip, out.1.warnings, out.1.crashed⟩, out.2))
    (Q := fun res nes l out => adjustEntries res.strip nes.strip l = (out.1.strip, out.2))
  case dict =>
    intro rid res nid nes l es w cr lv ih
    exact adjustTree_dict ih
  case empty =>
    intro ref nid l hr
    exact adjustTree_empty (by rwa [PTree.strip_isDict])
  case ref_nondict =>
    intro ref nid k item rest l hr
    exact adjustTree_ref_nondict (by rwa [PTree.strip_isDict])
  case new_nondict =>
    intro ref n l hn
    exact adjustTree_new_nondict (by rwa [PTree.strip_isDict])
  case nil => intro res l; rfl
  case absent =>
    intro res k item rest l es w cr lv hl ih
    exact adjustEntries_absent (by rw [PEntries.strip_lookup, hl]; rfl) ih
  case store =>
    intro res k item rest l cur out hl hi ih
    rw [PEntries.strip_set] at ih
    exact (adjustEntries_store (by rw [PEntries.strip_lookup, hl]; rfl) (by rwa [PTree.strip_isDict])).trans ih
  case sub_crash =>
    intro res k i nes rest l cur o lv hl _ ih hc
    rw [PEntries.strip_set]
    exact adjustEntries_sub_crash (by rw [PEntries.strip_lookup, hl]; rfl) ih hc
  case sub =>
    intro res k i nes rest l cur o lv es w cr lv' hl _ ihT hc ihE
    rw [PEntries.strip_set] at ihE
    exact adjustEntries_sub (o := ⟨o.tree.strip, o.warnings, o.crashed⟩) (by rw [PEntries.strip_lookup, hl]; rfl)
      ihT hc ihE

theorem adjust_contents (r r' n n' : PTree) (l : List String) (hr : r.strip = r'.strip) (hn : n.strip = n'.strip) :
    (adjustTree r n l).1.tree.strip = (adjustTree r' n' l).1.tree.strip ∧
    (adjustTree r n l).1.warnings = (adjustTree r' n' l).1.warnings ∧
    (adjustTree r n l).1.crashed = (adjustTree r' n' l).1.crashed ∧
    (adjustTree r n l).2 = (adjustTree r' n' l).2 := by
  have h := adjust_strip.1 r n l
  rw [hr, hn, adjust_strip.1 r' n' l] at h
  simp only [Prod.mk.injEq, AdjOut.mk.injEq] at h
  exact ⟨h.1.1.symm, h.1.2.1.symm, h.1.2.2.symm, h.2.symm⟩

theorem adjust_strip_entries : ∀ (nes nes' res res' : PEntries) (l : List String), res.strip = res'.strip →
    nes.strip = nes'.strip →
    (adjustEntries res nes l).1.strip = (adjustEntries res' nes' l).1.strip ∧
    (adjustEntries res nes l).2.1 = (adjustEntries res' nes' l).2.1 ∧
    (adjustEntries res nes l).2.2.1 = (adjustEntries res' nes' l).2.2.1 ∧
    (adjustEntries res nes l).2.2.2 = (adjustEntries res' nes' l).2.2.2 := by
  intro nes nes' res res' l hr hn
  have h := adjust_strip.2 res nes l
  rw [hr, hn, adjust_strip.2 res' nes' l] at h
  simp only [Prod.mk.injEq] at h
  exact ⟨h.1.symm, by rw [h.2], by rw [h.2], by rw [h.2]⟩

theorem adjustEntries_strip : ∀ (nes res res' : PEntries) (l : List String), res.strip = res'.strip →
    (adjustEntries res nes l).1.strip = (adjustEntries res' nes l).1.strip ∧
    (adjustEntries res nes l).2.1 = (adjustEntries res' nes l).2.1 ∧
    (adjustEntries res nes l).2.2.1 = (adjustEntries res' nes l).2.2.1 ∧
    (adjustEntries res nes l).2.2.2 = (adjustEntries res' nes l).2.2.2 :=
  fun nes res res' l h => adjust_strip_entries nes nes res res' l h rfl

theorem hasDupStr_cons (k : String) (r : List String) :
    hasDupStr (k :: r) = false ↔ k ∉ r ∧ hasDupStr r = false := by
  simp [hasDupStr]

theorem PTree.nodupKeys_of_nondict {t : PTree} (h : t.isDict = false) : t.nodupKeys = true := by
  cases t <;> simp [PTree.nodupKeys, PTree.isDict] at h ⊢

theorem PEntries.nodupKeys_lookup : ∀ (es : PEntries) (k : String) (v : PTree), es.nodupKeys = true →
    es.lookup k = some v → v.nodupKeys = true
  | .nil, k, v, _, h => by simp [PEntries.lookup] at h
  | .cons k0 v0 rest, k, v, hn, h => by
    simp [PEntries.nodupKeys] at hn
    by_cases hk : k0 = k
    · simp [PEntries.lookup, hk] at h; subst h; exact hn.1
    · simp [PEntries.lookup, hk] at h
      exact PEntries.nodupKeys_lookup rest k v hn.2 h

theorem PEntries.nodupKeys_set : ∀ (es : PEntries) (k : String) (v : PTree), es.nodupKeys = true →
    v.nodupKeys = true → (es.set k v).nodupKeys = true
  | .nil, k, v, _, h => by simp [PEntries.set, PEntries.nodupKeys, h]
  | .cons k0 v0 rest, k, v, hn, h => by
    simp [PEntries.nodupKeys] at hn
    by_cases hk : k0 = k
    · simp [PEntries.set, hk, PEntries.nodupKeys, h, hn.2]
    · simp [PEntries.set, hk, PEntries.nodupKeys, hn.1, PEntries.nodupKeys_set rest k v hn.2 h]

theorem adjust_keys :
    (∀ (r n : PTree) (l : List String), r.nodupKeys = true → (adjustTree r n l).1.tree.nodupKeys = true) ∧
    (∀ (res nes : PEntries) (l : List String), (adjustEntries res nes l).1.keys = res.keys ∧
      (res.nodupKeys = true → (adjustEntries res nes l).1.nodupKeys = true)) := by
  apply adjust_induct (P := fun r _ _ out => r.nodupKeys = true → out.1.tree.nodupKeys = true)
    (Q := fun res _ _ out => out.1.keys = res.keys ∧ (res.nodupKeys = true → out.1.nodupKeys = true))
  case dict =>
    intro rid res nid nes l es w cr lv ih hr
    simp only [PTree.nodupKeys, Bool.and_eq_true] at hr ⊢
    exact ⟨ih.1 ▸ hr.1, ih.2 hr.2⟩
  case empty => intro ref nid l _ hr; exact hr
  case ref_nondict => intro ref nid k item rest l _ hr; exact hr
  case new_nondict => intro ref n l _ hr; exact hr
  case nil => intro res l; exact ⟨rfl, id⟩
  case absent => intro res k item rest l es w cr lv _ ih; exact ih
  case store =>
    intro res k item rest l cur out hl hi ih
    exact ⟨ih.1.trans (PEntries.keys_set _ _ _ (by simp [hl])),
      fun hr => ih.2 (PEntries.nodupKeys_set _ _ _ hr (PTree.nodupKeys_of_nondict hi))⟩
  case sub_crash =>
    intro res k i nes rest l cur o lv hl _ ih _
    exact ⟨PEntries.keys_set _ _ _ (by simp [hl]),
      fun hr => PEntries.nodupKeys_set _ _ _ hr (ih (PEntries.nodupKeys_lookup _ _ _ hr hl))⟩
  case sub =>
    intro res k i nes rest l cur o lv es w cr lv' hl _ ihT _ ihE
    exact ⟨ihE.1.trans (PEntries.keys_set _ _ _ (by simp [hl])),
      fun hr => ihE.2 (PEntries.nodupKeys_set _ _ _ hr (ihT (PEntries.nodupKeys_lookup _ _ _ hr hl)))⟩

theorem adjust_nodup_entries : ∀ (nes res : PEntries) (l : List String), PEntries.valid res nes = true →
    res.nodupKeys = true → (adjustEntries res nes l).1.nodupKeys = true :=
  fun nes res l _ h => (adjust_keys.2 res nes l).2 h

theorem adjust_lookup_unnamed (k : String) (res nes : PEntries) (l : List String) :
    nes.lookup k = none → (adjustEntries res nes l).1.lookup k = res.lookup k := by
  refine (adjust_induct (P := fun _ _ _ _ => True)
    (Q := fun res nes _ out => nes.lookup k = none → out.1.lookup k = res.lookup k)
    ?dict ?empty ?ref_nondict ?new_nondict ?nil ?absent ?store ?sub_crash ?sub).2 res nes l
  case absent =>
    intro res k0 item rest l es w cr lv _ ih h
    exact ih (PEntries.lookup_cons_none h).2
  case store =>
    intro res k0 item rest l cur out _ _ ih h
    obtain ⟨hk, hr⟩ := PEntries.lookup_cons_none h
    rw [ih hr, PEntries.lookup_set, if_neg hk]
  case sub_crash =>
    intro res k0 i nes rest l cur o lv _ _ _ _ h
    rw [PEntries.lookup_set, if_neg (PEntries.lookup_cons_none h).1]
  case sub =>
    intro res k0 i nes rest l cur o lv es w cr lv' _ _ _ _ ih h
    obtain ⟨hk, hr⟩ := PEntries.lookup_cons_none h
    rw [ih hr, PEntries.lookup_set, if_neg hk]
  case nil => exact fun _ _ _ => rfl
  all_goals intros; trivial

theorem PTree.sameShape_isDict {a b : PTree} (h : a.sameShape b = true) : a.isDict = b.isDict := by
  cases a <;> cases b <;> simp [PTree.sameShape, PTree.isDict] at h ⊢

theorem PTree.sameShape_of_nondict {a b : PTree} (ha : a.isDict = false) (hb : b.isDict = false) :
    a.sameShape b = true := by
  cases a <;> cases b <;> simp [PTree.sameShape, PTree.isDict] at ha hb ⊢

mutual
theorem PTree.sameShape_refl : ∀ (a : PTree), a.sameShape a = true
  | .leaf _ => by simp [PTree.sameShape]
  | .list _ _ => by simp [PTree.sameShape]
  | .dict _ es => by simp [PTree.sameShape, PEntries.sameShape_refl es]
theorem PEntries.sameShape_refl : ∀ (a : PEntries), a.sameShape a = true
  | .nil => by simp [PEntries.sameShape]
  | .cons k v r => by simp [PEntries.sameShape, PTree.sameShape_refl v, PEntries.sameShape_refl r]
end

mutual
theorem PTree.sameShape_trans : ∀ (a b c : PTree), a.sameShape b = true → b.sameShape c = true → a.sameShape c = true
  | .leaf _, _, _, h1, h2 =>
    PTree.sameShape_of_nondict rfl ((PTree.sameShape_isDict h2).symm.trans (PTree.sameShape_isDict h1).symm)
  | .list _ _, _, _, h1, h2 =>
    PTree.sameShape_of_nondict rfl ((PTree.sameShape_isDict h2).symm.trans (PTree.sameShape_isDict h1).symm)
  | .dict _ ea, b, c, h1, h2 => by
    obtain ⟨_, eb, rfl⟩ := (PTree.isDict_true_iff b).1 (PTree.sameShape_isDict h1).symm
    obtain ⟨_, ec, rfl⟩ := (PTree.isDict_true_iff c).1 (PTree.sameShape_isDict h2).symm
    exact PEntries.sameShape_trans ea eb ec h1 h2
theorem PEntries.sameShape_trans : ∀ (a b c : PEntries), a.sameShape b = true → b.sameShape c = true → a.sameShape c = true
  | .nil, b, c, h1, h2 => by
    cases b <;> cases c <;> simp [PEntries.sameShape] at h1 h2 ⊢
  | .cons k v r, b, c, h1, h2 => by
    cases b <;> cases c <;> simp [PEntries.sameShape] at h1 h2 ⊢
    obtain ⟨⟨e1, s1⟩, r1⟩ := h1
    obtain ⟨⟨e2, s2⟩, r2⟩ := h2
    exact ⟨⟨e1.trans e2, PTree.sameShape_trans v _ _ s1 s2⟩, PEntries.sameShape_trans r _ _ r1 r2⟩
end

theorem PEntries.sameShape_set : ∀ (es : PEntries) (k : String) (v cur : PTree), es.lookup k = some cur →
    v.sameShape cur = true → (es.set k v).sameShape es = true
  | .nil, k, v, cur, h, hs => by simp [PEntries.lookup] at h
  | .cons k0 v0 rest, k, v, cur, h, hs => by
    by_cases hk : k0 = k
    · simp [PEntries.lookup, hk] at h
      subst h
      simp [PEntries.set, hk, PEntries.sameShape, hs, PEntries.sameShape_refl]
    · simp [PEntries.lookup, hk] at h
      simp [PEntries.set, hk, PEntries.sameShape, PTree.sameShape_refl, PEntries.sameShape_set rest k v cur h hs]

theorem PEntries.sameShape_lookup : ∀ (a b : PEntries) (k : String), a.sameShape b = true →
    (a.lookup k = none ∧ b.lookup k = none) ∨
      ∃ x y, a.lookup k = some x ∧ b.lookup k = some y ∧ x.sameShape y = true
  | .nil, b, k, h => by cases b <;> simp [PEntries.sameShape, PEntries.lookup] at h ⊢
  | .cons k0 v0 r, b, k, h => by
    cases b with
    | nil => simp [PEntries.sameShape] at h
    | cons k1 v1 r1 =>
      simp [PEntries.sameShape] at h
      obtain ⟨⟨e, s⟩, hr⟩ := h
      subst e
      by_cases hk : k0 = k
      · simp [PEntries.lookup, hk, s]
      · simp only [PEntries.lookup, if_neg hk]
        exact PEntries.sameShape_lookup r r1 k hr

theorem PTree.valid_isDict {a b : PTree} (h : PTree.valid a b = true) : a.isDict = true ∧ b.isDict = true := by
  cases a <;> cases b <;> simp [PTree.valid, PTree.isDict] at h ⊢

/- The equations of `PEntries.valid` on a `cons`.  They cite the generated equations: `simp [PEntries.valid]` and
`unfold` build terms that the kernel rejects for this definition. -/
theorem PEntries.valid_cons_none (res : PEntries) (k item rest) (h : res.lookup k = none) :
    PEntries.valid res (.cons k item rest) = PEntries.valid res rest := by
  rw [PEntries.valid.eq_2 _ _ _ _ h, Bool.true_and]

theorem PEntries.valid_cons_dict (res : PEntries) (k i nes rest cur) (h : res.lookup k = some cur) :
    PEntries.valid res (.cons k (.dict i nes) rest) = (PTree.valid cur (.dict i nes) && PEntries.valid res rest) :=
  PEntries.valid.eq_3 _ _ _ _ _ _ h

theorem PEntries.valid_cons_non (res : PEntries) (k item rest cur) (h : res.lookup k = some cur)
    (hi : item.isDict = false) :
    PEntries.valid res (.cons k item rest) = (!cur.isDict && PEntries.valid res rest) := by
  have hi' : ∀ (i : Nat) (nes : PEntries), item = PTree.dict i nes → False := by
    intro i nes e; subst e; simp [PTree.isDict] at hi
  cases hc : cur.isDict
  · have hc' : ∀ (i : Nat) (nes : PEntries), cur = PTree.dict i nes → False := by
      intro i nes e; subst e; simp [PTree.isDict] at hc
    rw [PEntries.valid.eq_5 _ _ _ _ _ h hi' hc']; rfl
  · obtain ⟨i, sub, rfl⟩ := (PTree.isDict_true_iff _).1 hc
    rw [PEntries.valid.eq_4 _ _ _ _ _ _ h hi']; rfl

theorem PEntries.unknown_cons_none (res : PEntries) (k item rest) (h : res.lookup k = none) :
    PEntries.unknown res (.cons k item rest) = 1 + PEntries.unknown res rest := by
  simp [PEntries.unknown, h]

theorem PEntries.unknown_cons_some (res : PEntries) (k item rest cur) (h : res.lookup k = some cur) :
    PEntries.unknown res (.cons k item rest) = PTree.unknown cur item + PEntries.unknown res rest := by
  simp [PEntries.unknown, h]

theorem PTree.unknown_non (cur item : PTree) (h : item.isDict = false) : PTree.unknown cur item = 0 := by
  cases item <;> cases cur <;> simp [PTree.unknown, PTree.isDict] at h ⊢

mutual
theorem PTree.congr_of_sameShape : ∀ (n a b : PTree), a.sameShape b = true →
    PTree.valid a n = PTree.valid b n ∧ PTree.unknown a n = PTree.unknown b n
  | .leaf _, a, b, _ => by cases a <;> cases b <;> simp [PTree.valid, PTree.unknown]
  | .list _ _, a, b, _ => by cases a <;> cases b <;> simp [PTree.valid, PTree.unknown]
  | .dict _ nes, a, b, h => by
    cases a <;> cases b <;> simp [PTree.valid, PTree.unknown, PTree.sameShape] at h ⊢
    exact PEntries.congr_of_sameShape nes _ _ h
theorem PEntries.congr_of_sameShape : ∀ (nes a b : PEntries), a.sameShape b = true →
    PEntries.valid a nes = PEntries.valid b nes ∧ PEntries.unknown a nes = PEntries.unknown b nes
  | .nil, a, b, _ => by simp [PEntries.valid, PEntries.unknown]
  | .cons k item rest, a, b, h => by
    have ihT := PTree.congr_of_sameShape item
    obtain ⟨e1, e2⟩ := PEntries.congr_of_sameShape rest a b h
    rcases PEntries.sameShape_lookup a b k h with ⟨h1, h2⟩ | ⟨x, y, h1, h2, hs⟩
    · rw [PEntries.valid_cons_none _ _ _ _ h1, PEntries.valid_cons_none _ _ _ _ h2,
        PEntries.unknown_cons_none _ _ _ _ h1, PEntries.unknown_cons_none _ _ _ _ h2, e1, e2]
      exact ⟨rfl, rfl⟩
    · rw [PEntries.unknown_cons_some _ _ _ _ _ h1, PEntries.unknown_cons_some _ _ _ _ _ h2, e2, (ihT x y hs).2]
      refine ⟨?_, rfl⟩
      cases hi : item.isDict
      · rw [PEntries.valid_cons_non _ _ _ _ _ h1 hi, PEntries.valid_cons_non _ _ _ _ _ h2 hi, e1,
          PTree.sameShape_isDict hs]
      · obtain ⟨i, sub, rfl⟩ := (PTree.isDict_true_iff _).1 hi
        rw [PEntries.valid_cons_dict _ _ _ _ _ _ h1, PEntries.valid_cons_dict _ _ _ _ _ _ h2, e1, (ihT x y hs).1]
end

theorem PTree.valid_congr : ∀ (n a b : PTree), a.sameShape b = true → PTree.valid a n = PTree.valid b n :=
  fun n a b h => (PTree.congr_of_sameShape n a b h).1

theorem PTree.unknown_congr : ∀ (n a b : PTree), a.sameShape b = true → PTree.unknown a n = PTree.unknown b n :=
  fun n a b h => (PTree.congr_of_sameShape n a b h).2

theorem adjust_of_valid :
    (∀ (ref new : PTree) (l : List String), PTree.valid ref new = true →
      (adjustTree ref new l).1.crashed = false ∧ PTree.sameShape (adjustTree ref new l).1.tree ref = true ∧
      (adjustTree ref new l).1.warnings.length = PTree.unknown ref new) ∧
    (∀ (res nes : PEntries) (l : List String), PEntries.valid res nes = true →
      (adjustEntries res nes l).2.2.1 = false ∧ PEntries.sameShape (adjustEntries res nes l).1 res = true ∧
      (adjustEntries res nes l).2.1.length = PEntries.unknown res nes) := by
  apply adjust_induct (P := fun ref new _ out => PTree.valid ref new = true →
      out.1.crashed = false ∧ PTree.sameShape out.1.tree ref = true ∧ out.1.warnings.length = PTree.unknown ref new)
    (Q := fun res nes _ out => PEntries.valid res nes = true →
      out.2.2.1 = false ∧ PEntries.sameShape out.1 res = true ∧ out.2.1.length = PEntries.unknown res nes)
  case dict =>
    intro rid res nid nes l es w cr lv ih h
    simpa [PTree.sameShape, PTree.unknown] using ih (by simpa [PTree.valid] using h)
  case empty => intro ref nid l hr h; rw [(PTree.valid_isDict h).1] at hr; cases hr
  case ref_nondict => intro ref nid k item rest l hr h; rw [(PTree.valid_isDict h).1] at hr; cases hr
  case new_nondict => intro ref n l hn h; rw [(PTree.valid_isDict h).2] at hn; cases hn
  case nil => intro res l _; simp [PEntries.sameShape_refl, PEntries.unknown]
  case absent =>
    intro res k item rest l es w cr lv hl ih h
    rw [PEntries.valid_cons_none _ _ _ _ hl] at h
    rw [PEntries.unknown_cons_none _ _ _ _ hl]
    obtain ⟨h1, h2, h3⟩ := ih h
    exact ⟨h1, h2, by simp only [List.length_cons, h3]; omega⟩
  case store =>
    -- a non-dict over a non-dict keeps the shape, so the rest of `new` is still valid
    intro res k item rest l cur out hl hi ih h
    rw [PEntries.valid_cons_non _ _ _ _ _ hl hi, Bool.and_eq_true, Bool.not_eq_true'] at h
    have hs := PEntries.sameShape_set res k item cur hl (PTree.sameShape_of_nondict hi h.1)
    obtain ⟨h1, h2, h3⟩ := ih (by rw [(PEntries.congr_of_sameShape rest _ _ hs).1]; exact h.2)
    refine ⟨h1, PEntries.sameShape_trans _ _ _ h2 hs, ?_⟩
    rw [h3, PEntries.unknown_cons_some _ _ _ _ _ hl, PTree.unknown_non _ _ hi,
      (PEntries.congr_of_sameShape rest _ _ hs).2]
    omega
  case sub_crash =>
    intro res k i nes rest l cur o lv hl _ ih hc h
    rw [PEntries.valid_cons_dict _ _ _ _ _ _ hl, Bool.and_eq_true] at h
    rw [(ih h.1).1] at hc; cases hc
  case sub =>
    intro res k i nes rest l cur o lv es w cr lv' hl _ ihT _ ihE h
    rw [PEntries.valid_cons_dict _ _ _ _ _ _ hl, Bool.and_eq_true] at h
    obtain ⟨-, c2, c3⟩ := ihT h.1
    have hs := PEntries.sameShape_set res k _ cur hl c2
    obtain ⟨h1, h2, h3⟩ := ihE (by rw [(PEntries.congr_of_sameShape rest _ _ hs).1]; exact h.2)
    refine ⟨h1, PEntries.sameShape_trans _ _ _ h2 hs, ?_⟩
    rw [List.length_append, h3, c3, PEntries.unknown_cons_some _ _ _ _ _ hl, (PEntries.congr_of_sameShape rest _ _ hs).2]

mutual
theorem PTree.eqb_iff : ∀ (a b : PTree), PTree.eqb a b = true ↔ a = b
  | .leaf _, b => by cases b <;> simp [PTree.eqb]
  | .list _ _, b => by cases b <;> simp [PTree.eqb]
  | .dict _ ea, b => by cases b <;> simp [PTree.eqb, PEntries.eqb_iff ea]
theorem PEntries.eqb_iff : ∀ (a b : PEntries), PEntries.eqb a b = true ↔ a = b
  | .nil, b => by cases b <;> simp [PEntries.eqb]
  | .cons k v r, b => by cases b <;> simp [PEntries.eqb, PTree.eqb_iff v, PEntries.eqb_iff r, and_assoc]
end

theorem PEntries.eqb_eq : ∀ (a b : PEntries), PEntries.eqb a b = true → a = b :=
  fun a b => (PEntries.eqb_iff a b).1

theorem PEntries.eqb_refl : ∀ (a : PEntries), PEntries.eqb a a = true :=
  fun a => (PEntries.eqb_iff a a).2 rfl

/-- What `agreeOff` asks of the two values under a key, given what `new` holds there. -/
def agreeAt : Option PTree → PTree → PTree → Prop
  | none, v, v' => v.strip = v'.strip
  | some (.dict i sub), v, v' => PTree.agreeOff (.dict i sub) v v' = true
  | some _, v, v' => PTree.sameShape v v' = true

theorem agreeAt_none {v v' : PTree} : agreeAt none v v' ↔ v.strip = v'.strip := Iff.rfl

theorem agreeAt_dict {i : Nat} {sub : PEntries} {v v' : PTree} :
    agreeAt (some (.dict i sub)) v v' ↔ PTree.agreeOff (.dict i sub) v v' = true := Iff.rfl

theorem PEntries.agreeOff_cons_iff (nes : PEntries) (k k' : String) (v v' : PTree) (r r' : PEntries) :
    PEntries.agreeOff nes (.cons k v r) (.cons k' v' r') = true ↔
      k = k' ∧ agreeAt (nes.lookup k) v v' ∧ PEntries.agreeOff nes r r' = true := by
  simp only [PEntries.agreeOff, Bool.and_eq_true, beq_iff_eq, and_assoc]
  cases nes.lookup k with
  | none => simp only [agreeAt, PTree.eqb_iff]
  | some x => cases x <;> rfl

theorem PEntries.agreeOff_nil_left (nes b : PEntries) : PEntries.agreeOff nes .nil b = true ↔ b = .nil := by
  cases b <;> simp [PEntries.agreeOff]

theorem PEntries.agreeOff_cons_left (nes : PEntries) (k : String) (v : PTree) (r b : PEntries)
    (h : PEntries.agreeOff nes (.cons k v r) b = true) : ∃ v' r', b = .cons k v' r' ∧
      agreeAt (nes.lookup k) v v' ∧ PEntries.agreeOff nes r r' = true := by
  cases b with
  | nil => simp [PEntries.agreeOff] at h
  | cons k' v' r' =>
    obtain ⟨rfl, h2, h3⟩ := (PEntries.agreeOff_cons_iff _ _ _ _ _ _ _).1 h
    exact ⟨v', r', rfl, h2, h3⟩

theorem PEntries.agreeOff_lookup (nes : PEntries) (k : String) : ∀ (a b : PEntries), PEntries.agreeOff nes a b = true →
    (a.lookup k = none ∧ b.lookup k = none) ∨
      ∃ v v', a.lookup k = some v ∧ b.lookup k = some v' ∧ agreeAt (nes.lookup k) v v'
  | .nil, b, h => by
    rw [PEntries.agreeOff_nil_left] at h; subst h; simp [PEntries.lookup]
  | .cons k0 v0 r, b, h => by
    obtain ⟨v', r', rfl, h2, h3⟩ := PEntries.agreeOff_cons_left _ _ _ _ _ h
    by_cases hk : k0 = k
    · subst hk; simp [PEntries.lookup, h2]
    · simp only [PEntries.lookup, if_neg hk]
      exact PEntries.agreeOff_lookup nes k r r' h3

theorem PEntries.agreeOff_congr (nes nes' : PEntries) : ∀ (a b : PEntries),
    (∀ k ∈ a.keys, nes.lookup k = nes'.lookup k) → PEntries.agreeOff nes a b = true →
    PEntries.agreeOff nes' a b = true
  | .nil, b, _, h => by
    rw [PEntries.agreeOff_nil_left] at h ⊢; exact h
  | .cons k0 v0 r, b, hk, h => by
    obtain ⟨v', r', rfl, h2, h3⟩ := PEntries.agreeOff_cons_left _ _ _ _ _ h
    rw [PEntries.agreeOff_cons_iff]
    refine ⟨rfl, ?_, PEntries.agreeOff_congr nes nes' r r' (fun k hk' => hk k (by simp [PEntries.keys, hk'])) h3⟩
    rw [← hk k0 (by simp [PEntries.keys])]; exact h2

theorem PEntries.agreeOff_set (nes nes' : PEntries) (k : String) (x x' : PTree)
    (hoff : ∀ k', k' ≠ k → nes.lookup k' = nes'.lookup k') (hk : nes'.lookup k = none)
    (hx : x.strip = x'.strip) : ∀ (a b : PEntries), hasDupStr a.keys = false →
    PEntries.agreeOff nes a b = true → PEntries.agreeOff nes' (a.set k x) (b.set k x') = true
  | .nil, b, _, h => by
    rw [PEntries.agreeOff_nil_left] at h; subst h
    simp only [PEntries.set]
    rw [PEntries.agreeOff_cons_iff]
    refine ⟨rfl, ?_, by simp [PEntries.agreeOff]⟩
    rw [hk]; exact agreeAt_none.2 hx
  | .cons k0 v0 r, b, hd, h => by
    obtain ⟨v', r', rfl, h2, h3⟩ := PEntries.agreeOff_cons_left _ _ _ _ _ h
    simp only [PEntries.keys] at hd
    rw [hasDupStr_cons] at hd
    by_cases hk0 : k0 = k
    · subst hk0
      simp only [PEntries.set, if_true]
      rw [PEntries.agreeOff_cons_iff]
      refine ⟨rfl, ?_, ?_⟩
      · rw [hk]; exact agreeAt_none.2 hx
      · refine PEntries.agreeOff_congr nes nes' r r' ?_ h3
        intro k' hk'
        exact hoff k' (fun e => hd.1 (e ▸ hk'))
    · simp only [PEntries.set, if_neg hk0]
      rw [PEntries.agreeOff_cons_iff]
      refine ⟨rfl, ?_, PEntries.agreeOff_set nes nes' k x x' hoff hk hx r r' hd.2 h3⟩
      rw [← hoff k0 hk0]; exact h2

theorem PEntries.agreeOff_nil_strip : ∀ (a b : PEntries), PEntries.agreeOff .nil a b = true → a.strip = b.strip
  | .nil, b, h => by rw [PEntries.agreeOff_nil_left] at h; subst h; rfl
  | .cons k0 v0 r, b, h => by
    obtain ⟨v', r', rfl, h2, h3⟩ := PEntries.agreeOff_cons_left _ _ _ _ _ h
    simp only [PEntries.strip]
    rw [agreeAt_none.1 h2, PEntries.agreeOff_nil_strip r r' h3]

mutual
theorem override_blind_tree : ∀ (new g₁ g₂ : PTree) (l₁ l₂ : List String), PTree.valid g₁ new = true →
    new.nodupKeys = true → g₁.nodupKeys = true → PTree.agreeOff new g₁ g₂ = true →
    (adjustTree g₁ new l₁).1.tree.strip = (adjustTree g₂ new l₂).1.tree.strip ∧
      (adjustTree g₂ new l₂).1.crashed = false
  | .leaf _, _, _, _, _, h, _, _, _ => nomatch (PTree.valid_isDict h).2
  | .list _ _, _, _, _, _, h, _, _, _ => nomatch (PTree.valid_isDict h).2
  | .dict nid nes, g₁, g₂, l₁, l₂, h, hk, hg, ha => by
    obtain ⟨i₁, a, rfl⟩ := (PTree.isDict_true_iff g₁).1 (PTree.valid_isDict h).1
    cases g₂ with
    | leaf _ => simp [PTree.agreeOff] at ha
    | list _ _ => simp [PTree.agreeOff] at ha
    | dict i₂ b =>
      simp only [PTree.nodupKeys, Bool.and_eq_true, Bool.not_eq_true'] at hk hg
      have ih := override_blind_entries nes a b l₁ l₂ h hk.1 hk.2 hg.1 hg.2 ha
      simpa [adjustTree, PTree.strip] using ih
theorem override_blind_entries : ∀ (nes a b : PEntries) (l₁ l₂ : List String), PEntries.valid a nes = true →
    hasDupStr nes.keys = false → nes.nodupKeys = true → hasDupStr a.keys = false → a.nodupKeys = true →
    PEntries.agreeOff nes a b = true →
    (adjustEntries a nes l₁).1.strip = (adjustEntries b nes l₂).1.strip ∧
      (adjustEntries b nes l₂).2.2.1 = false
  | .nil, a, b, _, _, _, _, _, _, _, ha => ⟨PEntries.agreeOff_nil_strip a b ha, rfl⟩
  | .cons k item rest, a, b, l₁, l₂, h, hdn, hnn, hda, hna, ha => by
    have ihT := override_blind_tree item
    have ihE := override_blind_entries rest
    simp only [PEntries.keys] at hdn
    rw [hasDupStr_cons] at hdn
    simp only [PEntries.nodupKeys, Bool.and_eq_true] at hnn
    have hoff : ∀ k', k' ≠ k → (PEntries.cons k item rest).lookup k' = rest.lookup k' := by
      intro k' hk'; simp [PEntries.lookup, Ne.symm hk']
    rcases PEntries.agreeOff_lookup _ k a b ha with ⟨h1, h2⟩ | ⟨cur, cur', h1, h2, hat⟩
    · rw [PEntries.valid_cons_none _ _ _ _ h1] at h
      simp only [adjustEntries, h1, h2]
      refine ihE a b _ _ h hdn.2 hnn.2 hda hna (PEntries.agreeOff_congr _ _ a b (fun k' hk' => hoff k' ?_) ha)
      rintro rfl
      exact (PEntries.lookup_none_iff _ _).1 h1 hk'
    · -- both runs store under `k`; with equal contents stored, the rest of `new` (which no longer names `k`) meets
      -- agreeing dictionaries again
      have step : ∀ (x x' : PTree) (l l' : List String), PEntries.valid a rest = true → x.sameShape cur = true →
          x.nodupKeys = true → x.strip = x'.strip →
          (adjustEntries (a.set k x) rest l).1.strip = (adjustEntries (b.set k x') rest l').1.strip ∧
            (adjustEntries (b.set k x') rest l').2.2.1 = false := by
        intro x x' l l' hrest hs hx hxx
        refine ihE _ _ _ _ ?_ hdn.2 hnn.2 ?_ (PEntries.nodupKeys_set _ _ _ hna hx)
          (PEntries.agreeOff_set _ _ k x x' hoff ((PEntries.lookup_none_iff _ _).2 hdn.1) hxx a b hda ha)
        · rw [(PEntries.congr_of_sameShape rest _ _ (PEntries.sameShape_set a k x cur h1 hs)).1]; exact hrest
        · rw [PEntries.keys_set _ _ _ (by simp [h1])]; exact hda
      cases hi : item.isDict
      · rw [PEntries.valid_cons_non _ _ _ _ _ h1 hi, Bool.and_eq_true, Bool.not_eq_true'] at h
        rw [adjustEntries_store h1 hi, adjustEntries_store h2 hi]
        exact step item item _ _ h.2 (PTree.sameShape_of_nondict hi h.1) (PTree.nodupKeys_of_nondict hi) rfl
      · obtain ⟨i, sub, rfl⟩ := (PTree.isDict_true_iff _).1 hi
        rw [PEntries.valid_cons_dict _ _ _ _ _ _ h1, Bool.and_eq_true] at h
        have hcn := PEntries.nodupKeys_lookup _ _ _ hna h1
        obtain ⟨c1, c2, -⟩ := adjust_of_valid.1 cur (.dict i sub) (l₁ ++ [k]) h.1
        obtain ⟨t1, t2⟩ := ihT cur cur' (l₁ ++ [k]) (l₂ ++ [k]) h.1 hnn.1 hcn
          (agreeAt_dict.1 (by simpa [PEntries.lookup] using hat))
        simp only [adjustEntries, h1, h2, c1, t2, Bool.false_eq_true, if_false]
        exact step _ _ _ _ h.2 c2 (adjust_keys.1 cur (.dict i sub) (l₁ ++ [k]) hcn) t1
end

/-- Override blindness needs `g₁.nodupKeys`: `lookup`/`set` see the first occurrence of a key only, `agreeOff`
relaxes the agreement at every occurrence, so two references may differ at a second occurrence that is never
overridden. -/
theorem adjust_override_blind_false :
    ¬ ∀ (new g₁ g₂ : PTree) (l : List String), PTree.valid g₁ new = true → new.nodupKeys = true →
        PTree.agreeOff new g₁ g₂ = true →
        (adjustTree g₁ new l).1.tree.strip = (adjustTree g₂ new l).1.tree.strip := by
  intro h
  have := h (.dict 0 (.cons "x" (.leaf (.int 5)) .nil))
    (.dict 1 (.cons "x" (.leaf (.int 1)) (.cons "x" (.leaf (.int 2)) .nil)))
    (.dict 2 (.cons "x" (.leaf (.int 1)) (.cons "x" (.leaf (.int 3)) .nil))) [] (by decide) (by decide) (by decide)
  simp [adjustTree, adjustEntries, PEntries.lookup, PEntries.set, PEntries.strip, PTree.strip] at this

/-- The nested dictionary `{p₁: {p₂: … {pₙ: v}}}`. -/
def nest : List String → PTree → PTree
  | [], v => v
  | k :: ks, v => .dict 0 (.cons k (nest ks v) .nil)

theorem setPath_eq_adjust (v : PTree) (hv : v.isDict = false) :
    ∀ (p : List String) (g g' cur : PTree) (l : List String),
      g.getPath p = some cur → g.setPath p v = some g' →
      ∃ lv, adjustTree g (nest p v) l = (⟨g', [], false⟩, lv)
  | [], _, _, _, _, _, h => by simp [PTree.setPath] at h
  | [k], g, g', cur, l, hcur, h => by
    cases g with
    | leaf _ => simp [PTree.setPath] at h
    | list _ _ => simp [PTree.setPath] at h
    | dict i es =>
      rw [PTree.setPath_dict, Option.some.injEq] at h
      rw [PTree.getPath_dict] at hcur
      subst h
      exact ⟨_, adjustTree_dict ((adjustEntries_store hcur hv).trans rfl)⟩
  | k :: k2 :: ks, g, g', cur, l, hcur, h => by
    cases g with
    | leaf _ => simp [PTree.setPath] at h
    | list _ _ => simp [PTree.setPath] at h
    | dict i es =>
      simp only [PTree.getPath] at hcur
      cases hl : es.lookup k with
      | none => simp [hl] at hcur
      | some sub =>
        simp only [hl, Option.bind_some] at hcur
        simp only [PTree.setPath, hl, Option.map_eq_some_iff] at h
        obtain ⟨sub', hs, rfl⟩ := h
        obtain ⟨lv, e⟩ := setPath_eq_adjust v hv (k2 :: ks) sub sub' cur (l ++ [k]) hcur hs
        exact ⟨lv, adjustTree_dict (adjustEntries_sub hl e rfl rfl)⟩

end Ampy
