import Ampy.Lemmas.Layers
import Ampy.Lemmas.TableColumns
import Ampy.Lemmas.Merge
/-!
`run` as a whole: a successful run is its three stages in sequence (`RunParts`, with the id invariant at the three
levels under `KernOK`), and with in-domain parameters the only reachable failure is that of `ncomp_from_gmm` on a
selected mixture with an empty component (`run_sat`).
-/
namespace Ampy

/-- What the stages of a run computed: the id columns, the tables before `isolated` and `ncomp` are written, and those
two columns. -/
structure RunTrace where
  sids : List Int
  sl : Table
  gids : List Int
  iso : List Bool
  gr : Table
  lids : List Int
  nc : List Int
  lay : Table

/-- The chunk `c` is what the three stages, run in sequence on the cropped input, computed as recorded in `t`. Only the
id invariants assume `KernOK`: `C05_hits_preserved` and `C08_metar_msg_total` read the other fields whatever `K`. -/
structure RunParts {α} [DecidableEq α] (K : Kern) (P : PPrms α) (checked : List (Hit α)) (c : Chunk α)
    (t : RunTrace) : Prop where
  data : c.data = (crop P.toPrms checked).1
  flag : c.flag = (crop P.toPrms checked).2
  slices : metarize K.toMetK P.toPrms .slices false c.data t.sids = .ok t.sl
  group : groupIds K P c.data t.sids t.sl = .ok (t.gids, t.iso)
  groups : metarize K.toMetK P.toPrms .groups false c.data t.gids = .ok t.gr
  layer : layerIds K P c.data t.gids t.gr = .ok (t.lids, t.nc)
  layers : metarize K.toMetK P.toPrms .layers true c.data t.lids = .ok t.lay
  sids_eq : c.sids = some t.sids
  gids_eq : c.gids = some t.gids
  lids_eq : c.lids = some t.lids
  slices_eq : c.slices = some (setIsolated t.sl t.iso)
  groups_eq : c.groups = some (setNcomp t.gr t.nc)
  layers_eq : c.layers = some t.lay
  /-- `sliceIds_exact`. -/
  sidsExact : KernOK K P.basePerc → IdsExact c.data t.sids
  /-- `groupIds_exact`, fed with `sidsExact`. -/
  gidsExact : KernOK K P.basePerc → IdsExact c.data t.gids
  /-- `layerIds_exact`, fed with `gidsExact`. -/
  lidsExact : KernOK K P.basePerc → IdsExact c.data t.lids

/-- One forward walk: each stage's failure is excluded, under `KernOK` and `PrmsOK`, by what the stages before it
returned; only the failure of a decision of `find_layers` is left. The two hypotheses sit inside the error predicate
so that `run_parts` has none. -/
theorem run_sat {α} [DecidableEq α] (K : Kern) (P : PPrms α) (checked : List (Hit α)) :
    Sat (run K P checked) (fun c => ∃ t, RunParts K P checked c t)
      (fun e => KernOK K P.basePerc → PrmsOK P →
        (e = .ampy "Cloud base calculation got an empty array" ∨ e = .other "AssertionError") ∧
          ¬ SelectedPopulated K P) := by
  rw [run_eq]
  dsimp only
  refine Sat.bind (Sat.of_eq fun e he _ hP =>
    absurd hP.hscale ((sliceIds_sat K P (crop P.toPrms checked).1).of_error he)) fun sids hs => ?_
  have sidsExact := fun hK : KernOK K P.basePerc => sliceIds_exact K P (crop P.toPrms checked).1 hK sids hs
  refine Sat.bind (Sat.of_eq fun e he hK hP =>
    absurd he (metarize_ne_error K.toMetK P.toPrms .slices false _ sids hK.met (sidsExact hK).toOK hP.t0
      (fun h => nomatch h.1) e)) fun sl hsl => ?_
  refine Sat.bind (Sat.of_eq fun e he hK hP =>
    absurd he (ok_ne_error (groupIds_total K P hK hP (crop P.toPrms checked).1 sids sl (sidsExact hK)).choose_spec))
    fun r hg => ?_
  obtain ⟨gids, iso⟩ := r
  have gidsExact := fun hK : KernOK K P.basePerc =>
    groupIds_exact K P (crop P.toPrms checked).1 _ hK sids sl (sidsExact hK) gids iso hg
  refine Sat.bind (Sat.of_eq fun e he hK hP =>
    absurd he (metarize_ne_error K.toMetK P.toPrms .groups false _ gids hK.met (gidsExact hK).toOK hP.t0
      (fun h => nomatch h.2.1) e)) fun gr hgr => ?_
  refine Sat.bind (Sat.of_eq fun e he hK hP => by
    obtain ⟨g, _, hge⟩ := (layerIds_decisions K P (crop P.toPrms checked).1 gids gr).of_error he
    exact layerDecide_error K P hK hP (crop P.toPrms checked).1 gids g e hge) fun r hl => ?_
  obtain ⟨lids, nc⟩ := r
  have lidsExact := fun hK : KernOK K P.basePerc =>
    layerIds_exact K P (crop P.toPrms checked).1 hK gids gr (gidsExact hK) lids nc hl
  refine Sat.bind (Sat.of_eq fun e he hK hP =>
    absurd he (metarize_ne_error K.toMetK P.toPrms .layers true _ lids hK.met (lidsExact hK).toOK hP.t0
      (fun h => nomatch h.1) e)) fun lay hlay => ?_
  exact ⟨⟨sids, sl, gids, iso, gr, lids, nc, lay⟩,
    { data := rfl, flag := rfl, slices := hsl, group := hg, groups := hgr, layer := hl, layers := hlay,
      sids_eq := rfl, gids_eq := rfl, lids_eq := rfl, slices_eq := rfl, groups_eq := rfl, layers_eq := rfl,
      sidsExact, gidsExact, lidsExact }⟩

theorem run_parts {α} [DecidableEq α] (K : Kern) (P : PPrms α) (checked : List (Hit α)) (c : Chunk α)
    (h : run K P checked = .ok c) : ∃ t, RunParts K P checked c t :=
  (run_sat K P checked).of_ok h

theorem run_total {α} [DecidableEq α] (K : Kern) (P : PPrms α) (hK : KernOK K P.basePerc) (hP : PrmsOK P)
    (hA3 : SelectedPopulated K P) (checked : List (Hit α)) :
    ∃ c, run K P checked = .ok c :=
  ((run_sat K P checked).exists_ok fun _ h => (h hK hP).2 hA3).imp fun _ h => h.1

theorem metarMsg_total (msa : Option Rat) (flag : Bool) (n : Nat) (t : Table) : ∃ s, metarMsg msa flag n t = s :=
  ⟨_, rfl⟩

end Ampy
