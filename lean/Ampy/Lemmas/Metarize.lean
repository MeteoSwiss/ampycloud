import Ampy.Spec.Table
import Ampy.Lemmas.BaseHeight
import Ampy.Lemmas.CloudAmount
import Ampy.Lemmas.Icao
/-!
The "pipeline lemma" `metarize_tableOK`: every table `metarize` builds satisfies `TableOK` and lists exactly the ids
present in the column, and `metarize` fails only by refusing to redo the groups once layers exist.  Its hypotheses
are defined here (`MetKOK`, `IdsOK`, `HeightsInRange`).
-/
namespace Ampy

/-- Shape conditions on the third-party answers (checked on every scene by the harness).  `q` is the percentile
rank at which `np.percentile` is assumed to stay between the extremes: `BASE_LVL_HEIGHT_PERC` in every use. -/
structure MetKOK (K : MetK) (q : Rat) : Prop where
  baseOrder_perm : ∀ l, isPermOf (K.baseOrder l) l.length = true
  baseOrder_sorted : ∀ l, (applyPerm (K.baseOrder l) l).Pairwise (· ≤ ·)
  dtOrder_perm : ∀ l, isPermOf (K.dtOrder l) l.length = true
  pctl_between : ∀ l, l ≠ [] → minRat l ≤ K.pctl l q ∧ K.pctl l q ≤ maxRat l

/-- Invariants of an id column. -/
structure IdsOK {α} (data : List (Hit α)) (ids : List Int) : Prop where
  len : ids.length = data.length
  ge : ∀ i ∈ ids, -1 ≤ i
  valid : ∀ p ∈ data.zip ids, 0 ≤ p.2 → p.1.height ≠ none

/-- Hit heights are in the physical range of the quantifier. -/
def HeightsInRange {α} (data : List (Hit α)) : Prop :=
  ∀ h ∈ data, ∀ y, h.height = some y → 0 ≤ y ∧ y < 100000

theorem isPermOf_iff {perm : List Nat} {n : Nat} :
    isPermOf perm n = true ↔ perm.length = n ∧ ∀ i, i < n → i ∈ perm := by
  unfold isPermOf
  simp only [Bool.and_eq_true, beq_iff_eq, List.all_eq_true, List.mem_range, List.contains_iff_mem]

theorem isPermOf_length {perm : List Nat} {n : Nat} (h : isPermOf perm n = true) : perm.length = n :=
  (isPermOf_iff.mp h).1

theorem isPermOf_mem {perm : List Nat} {n : Nat} (h : isPermOf perm n = true) {i : Nat} (hi : i < n) :
    i ∈ perm :=
  (isPermOf_iff.mp h).2 i hi

theorem isPermOf_perm {perm : List Nat} {n : Nat} (h : isPermOf perm n = true) :
    perm.Perm (List.range n) := by
  have hsub : (List.range n).Subperm perm :=
    List.subperm_of_subset List.nodup_range (fun x hx => isPermOf_mem h (List.mem_range.mp hx))
  exact (hsub.perm_of_length_le (by rw [isPermOf_length h, List.length_range])).symm

theorem applyPerm_perm {β} (perm : List Nat) (l : List β) (h : isPermOf perm l.length = true) :
    (applyPerm perm l).Perm l := by
  unfold applyPerm
  have e : (List.range l.length).filterMap (l[·]?) = l := by
    simpa [List.mapIdx_eq_zipIdx_map] using filterMap_range_mapIdx (fun _ (x : β) => x) l
  have := (isPermOf_perm h).filterMap (l[·]?)
  rwa [e] at this

theorem applyPerm_map {β γ} (f : β → γ) (perm : List Nat) (l : List β) :
    applyPerm perm (l.map f) = (applyPerm perm l).map f := by
  unfold applyPerm
  rw [List.map_filterMap]
  congr 1
  funext i
  simp

theorem mem_uniqueSorted (l : List Int) (c : Int) : c ∈ uniqueSorted l ↔ c ∈ l := by
  unfold uniqueSorted
  rw [List.mem_eraseDups, List.mem_mergeSort]

theorem clusterIds_nodup (ids : List Int) : (clusterIds ids).Nodup := by
  unfold clusterIds uniqueSorted
  exact (eraseDups_nodup _).filter _

theorem mem_clusterIds (ids : List Int) (c : Int) : c ∈ clusterIds ids ↔ c ∈ ids ∧ c ≠ -1 := by
  unfold clusterIds
  rw [List.mem_filter, mem_uniqueSorted]
  simp

theorem mem_nonNegIds_iff_clusterIds (ids : List Int) (h : ∀ i ∈ ids, -1 ≤ i) (a : Int) :
    a ∈ (ids.filter (· ≥ 0)).eraseDups ↔ a ∈ clusterIds ids := by
  rw [List.mem_eraseDups, List.mem_filter, mem_clusterIds, decide_eq_true_eq]
  exact and_congr_right fun ha => ⟨fun h0 => by omega, fun h1 => by have := h a ha; omega⟩

/-- `n_slices`/`n_groups`/`n_layers` equals the number of cluster ids when no id is below `-1`. -/
theorem nWhich_eq (ids : List Int) (h : ∀ i ∈ ids, -1 ≤ i) : nWhich ids = (clusterIds ids).length :=
  ((List.perm_ext_iff_of_nodup (eraseDups_nodup _) (clusterIds_nodup ids)).mpr
    (mem_nonNegIds_iff_clusterIds ids h)).length_eq

theorem nWhich_eq_length (ids : List Int) (h : ∀ i ∈ ids, -1 ≤ i) (t : Table)
    (hp : (t.map (·.cid)).Perm (clusterIds ids)) : nWhich ids = t.length := by
  rw [nWhich_eq ids h, ← hp.length_eq, List.length_map]

theorem getElem_mem_members {α} (data : List (Hit α)) (ids : List Int) (cid : Int) (i : Nat)
    (h₁ : i < data.length) (h₂ : i < ids.length) (hc : ids[i] = cid) : data[i] ∈ members data ids cid := by
  unfold members
  rw [List.mem_filterMap]
  exact ⟨(data[i], ids[i]), zip_getElem_mem data ids i h₁ h₂, by simp [hc]⟩

theorem clusterId_nonneg {α} {data : List (Hit α)} {ids : List Int} {cid : Int} (h : IdsOK data ids)
    (hc : cid ∈ clusterIds ids) : 0 ≤ cid := by
  obtain ⟨h1, h2⟩ := (mem_clusterIds ids cid).mp hc
  have := h.ge cid h1
  omega

theorem members_ne_nil {α} (data : List (Hit α)) (ids : List Int) (cid : Int) (h : IdsOK data ids)
    (hc : cid ∈ clusterIds ids) :
    ∃ m ∈ members data ids cid, ∃ y, m.height = some y := by
  have h0 := clusterId_nonneg h hc
  obtain ⟨h1, _⟩ := (mem_clusterIds ids cid).mp hc
  obtain ⟨i, hi, hic⟩ := List.mem_iff_getElem.mp h1
  have hd : i < data.length := h.len ▸ hi
  refine ⟨data[i], getElem_mem_members data ids cid i hd hi hic, ?_⟩
  have hv := h.valid _ (zip_getElem_mem data ids i hd hi) (by simpa [hic] using h0)
  exact Option.ne_none_iff_exists'.mp hv

theorem map_beq_getElem? (ids : List Int) (cid : Int) (i : Nat) :
    (ids.map (· == cid))[i]? = some true ↔ ∃ h' : i < ids.length, ids[i] = cid := by
  by_cases h : i < ids.length
  · simp [h]
  · simp [h]

theorem baseMask_true {α} [DecidableEq α] (P : Prms α) (data : List (Hit α)) (ids : List Int) (cid : Int)
    (i : Nat) (ht : (baseMask P data ids cid)[i]? = some true) :
    ∃ h' : i < ids.length, ids[i] = cid := by
  unfold baseMask at ht
  simp only at ht
  split at ht
  · split at ht
    · rw [List.getElem?_map] at ht
      obtain ⟨p, hp, hpt⟩ := Option.map_eq_some_iff.mp ht
      obtain ⟨hp1, hp2⟩ := List.getElem?_zip_eq_some.mp hp
      apply (map_beq_getElem? ids cid i).mp
      rw [hp2]
      simp only [Bool.and_eq_true] at hpt
      rw [hpt.1]
    · exact (map_beq_getElem? ids cid i).mp ht
  · exact (map_beq_getElem? ids cid i).mp ht

theorem baseMask_exists {α} [DecidableEq α] (P : Prms α) (data : List (Hit α)) (ids : List Int) (cid : Int)
    (hl : ids.length = data.length) (hc : cid ∈ ids) (ht0 : 0 ≤ P.t0) :
    ∃ i, (baseMask P data ids cid)[i]? = some true ∧ i < data.length := by
  have hin : ∃ i, (ids.map (· == cid))[i]? = some true ∧ i < data.length := by
    obtain ⟨i, hi, hic⟩ := List.mem_iff_getElem.mp hc
    exact ⟨i, (map_beq_getElem? ids cid i).mpr ⟨hi, hic⟩, hl ▸ hi⟩
  unfold baseMask
  simp only
  split
  · split
    · rename_i hcount
      -- more than `t0 ≥ 0` positions are selected, so one is
      obtain ⟨i, hi, hit⟩ := List.mem_iff_getElem.mp
        (List.count_pos_iff.mp (Nat.cast_pos.mp (lt_of_le_of_lt ht0 hcount)))
      refine ⟨i, by rw [List.getElem?_eq_getElem hi, hit], ?_⟩
      simp only [List.length_map, List.length_zip] at hi
      omega
    · exact hin
  · exact hin

theorem getElem?_bind_height {α} (data : List (Hit α)) (i : Nat) (y : Rat) :
    (data[i]?).bind (·.height) = some y ↔ ∃ h : i < data.length, data[i].height = some y := by
  by_cases h : i < data.length
  · simp [h]
  · simp [h]

theorem mem_selectSorted {α} (K : MetK) (data : List (Hit α)) (mask : List Bool) (y : Rat) :
    y ∈ selectSorted K data mask ↔ ∃ i ∈ K.dtOrder (data.map (·.dt)), mask[i]? = some true ∧
      ∃ h : i < data.length, data[i].height = some y := by
  unfold selectSorted
  rw [List.mem_filterMap]
  refine exists_congr fun i => and_congr_right fun _ => ?_
  rw [← getD_true_iff, ← getElem?_bind_height]
  by_cases hm : mask.getD i false = true
  · rw [if_pos hm]; exact (and_iff_right hm).symm
  · rw [if_neg hm]; exact ⟨nofun, fun e => absurd e.1 hm⟩

/-- The selection handed to `calc_base_height` is a non-empty list of member heights
(needs `0 ≤ MAX_HITS_OKTA0`, so that the exclusion filter falls back when it removes everything). -/
theorem selectSorted_mem {α} [DecidableEq α] (K : MetK) (P : Prms α) (data : List (Hit α)) (ids : List Int)
    (cid : Int) (hK : MetKOK K P.basePerc) (h : IdsOK data ids) (hc : cid ∈ clusterIds ids) (ht0 : 0 ≤ P.t0) :
    selectSorted K data (baseMask P data ids cid) ≠ [] ∧
    ∀ y ∈ selectSorted K data (baseMask P data ids cid),
      y ∈ (members data ids cid).filterMap (·.height) := by
  constructor
  · obtain ⟨i, hit, hid⟩ := baseMask_exists P data ids cid h.len ((mem_clusterIds ids cid).mp hc).1 ht0
    obtain ⟨hi', hic⟩ := baseMask_true P data ids cid i hit
    -- the selected row carries a non-negative id, so its height is valid
    have hv := h.valid _ (zip_getElem_mem data ids i hid hi') (by simpa [hic] using clusterId_nonneg h hc)
    obtain ⟨y, hy⟩ := Option.ne_none_iff_exists'.mp hv
    have hmem := isPermOf_mem (hK.dtOrder_perm (data.map (·.dt))) (i := i) (by simpa using hid)
    exact List.ne_nil_of_mem ((mem_selectSorted K data _ y).mpr ⟨i, hmem, hit, hid, hy⟩)
  · intro y hy
    obtain ⟨i, _, hit, hid, hh⟩ := (mem_selectSorted K data _ y).mp hy
    obtain ⟨hi', hic⟩ := baseMask_true P data ids cid i hit
    exact List.mem_filterMap.mpr ⟨data[i], getElem_mem_members data ids cid i hid hi' hic, hh⟩

theorem forall₂_map_eq {β γ} {R : β → γ → Prop} (g : γ → β) (hg : ∀ c r, R c r → g r = c)
    {l : List β} {rows : List γ} (h : List.Forall₂ R l rows) : rows.map g = l := by
  induction h with
  | nil => rfl
  | cons hr _ ih => rw [List.map_cons, ih, hg _ _ hr]

/-- `r` holds what `mkRow` computes for the cluster id `r.cid` from `data` and the id column `ids`.  Nothing is said
about `significant` (written by `flagRows`) nor about the bookkeeping columns `isolated` and `ncomp`. -/
structure RowOf {α} [DecidableEq α] (K : MetK) (P : Prms α) (data : List (Hit α)) (ids : List Int)
    (r : Row) : Prop where
  nHits : r.nHits = hitCount (ceilos data) (members data ids r.cid)
  perc : r.perc = (r.nHits : Rat) / (maxHits data : Rat) * 100
  okta : oktaOf r.nHits (maxHits data) P.t0 P.t8 = .ok r.okta
  base : calcBase K.pctl (selectSorted K data (baseMask P data ids r.cid)) P.lookback P.basePerc = .ok r.base
  code : mkCode r.okta r.base = .ok r.code
  hmin : r.hmin = minRat ((members data ids r.cid).filterMap (·.height))
  hmax : r.hmax = maxRat ((members data ids r.cid).filterMap (·.height))
  mean : r.mean = meanRat ((members data ids r.cid).filterMap (·.height))
  var : r.var = varRat ((members data ids r.cid).filterMap (·.height))
  thick : r.thick = r.hmax - r.hmin
  fluff : r.fluff = fluffiness K ((members data ids r.cid).filterMap fun h => h.height.map fun y => (h.dt, y))

theorem mkRow_rowOf {α} [DecidableEq α] {K : MetK} {P : Prms α} {w : Which} {data : List (Hit α)}
    {ids : List Int} {cid : Int} {r : Row} (h : mkRow K P w data ids cid = .ok r) :
    r.cid = cid ∧ RowOf K P data ids r := by
  unfold mkRow baseForMask at h
  obtain ⟨okta, hok, h⟩ := bind_eq_ok.mp h
  obtain ⟨base, hb, h⟩ := bind_eq_ok.mp h
  obtain ⟨code, hc, h⟩ := bind_eq_ok.mp h
  cases h
  refine ⟨rfl, ?_⟩
  exact { nHits := rfl, perc := rfl, okta := hok, base := hb, code := hc, hmin := rfl, hmax := rfl,
          mean := rfl, var := rfl, thick := rfl, fluff := rfl }

theorem RowOf.ignores {α} [DecidableEq α] {K : MetK} {P : Prms α} {data : List (Hit α)} {ids : List Int}
    {r : Row} (h : RowOf K P data ids r) (s : Bool) (i : Option Bool) (n : Option Int) :
    RowOf K P data ids { r with significant := s, isolated := i, ncomp := n } :=
  { nHits := h.nHits, perc := h.perc, okta := h.okta, base := h.base, code := h.code, hmin := h.hmin,
    hmax := h.hmax, mean := h.mean, var := h.var, thick := h.thick, fluff := h.fluff }

theorem RowOf.thick_nonneg {α} [DecidableEq α] {K : MetK} {P : Prms α} {data : List (Hit α)} {ids : List Int}
    {r : Row} (f : RowOf K P data ids r) : 0 ≤ r.thick := by
  rw [f.thick, f.hmax, f.hmin]; exact thickness_nonneg _

theorem RowOf.fluff_nonneg {α} [DecidableEq α] {K : MetK} {P : Prms α} {data : List (Hit α)} {ids : List Int}
    {r : Row} (f : RowOf K P data ids r) : 0 ≤ r.fluff := by
  rw [f.fluff]; exact fluffiness_nonneg K _

theorem maxHits_pos {α} [DecidableEq α] (data : List (Hit α)) (h : data ≠ []) : 0 < maxHits data := by
  unfold maxHits
  rw [hitCount_eq_distinct_pairs _ _ (ceilos_nodup data) (fun h hm => mem_ceilos data h hm)]
  cases data with
  | nil => exact absurd rfl h
  | cons a t =>
    rw [List.map_cons, List.eraseDups_cons]
    exact Nat.succ_pos _

theorem data_ne_nil {α} {data : List (Hit α)} {ids : List Int} {cid : Int} (h : IdsOK data ids)
    (hc : cid ∈ clusterIds ids) : data ≠ [] := by
  obtain ⟨m, hm, _⟩ := members_ne_nil data ids cid h hc
  exact List.ne_nil_of_mem ((members_sublist data ids cid).subset hm)

theorem oktaOf_cluster_total {α} [DecidableEq α] (P : Prms α) (data : List (Hit α)) (ids : List Int) (cid : Int)
    (h : IdsOK data ids) (hc : cid ∈ clusterIds ids) :
    ∃ o, oktaOf (hitCount (ceilos data) (members data ids cid)) (maxHits data) P.t0 P.t8 = .ok o ∧
      0 ≤ o ∧ o ≤ 8 := by
  have hM := maxHits_pos data (data_ne_nil h hc)
  have hn : hitCount (ceilos data) (members data ids cid) ≤ maxHits data :=
    hitCount_le_of_sublist _ _ _ (members_sublist data ids cid)
  have he := oktaOf_eq _ _ P.t0 P.t8 hM hn
  exact ⟨_, he, oktaOf_range _ _ P.t0 P.t8 hM hn _ he⟩

theorem calcBase_cluster_total {α} [DecidableEq α] (K : MetK) (P : Prms α) (data : List (Hit α)) (ids : List Int)
    (cid : Int) (hK : MetKOK K P.basePerc) (h : IdsOK data ids) (hc : cid ∈ clusterIds ids) (ht0 : 0 ≤ P.t0) :
    ∃ b, calcBase K.pctl (selectSorted K data (baseMask P data ids cid)) P.lookback P.basePerc = .ok b ∧
      (∃ y₁ ∈ (members data ids cid).filterMap (·.height), y₁ ≤ b) ∧
      (∃ y₂ ∈ (members data ids cid).filterMap (·.height), b ≤ y₂) := by
  obtain ⟨hne, hmem⟩ := selectSorted_mem K P data ids cid hK h hc ht0
  obtain ⟨b, hb, hlo, hhi⟩ := calcBase_between K.pctl _ P.lookback P.basePerc hne hK.pctl_between
  exact ⟨b, hb, ⟨_, hmem _ (minRat_mem hne), hlo⟩, ⟨_, hmem _ (maxRat_mem hne), hhi⟩⟩

theorem RowOf.base_inside {α} [DecidableEq α] {K : MetK} {P : Prms α} {data : List (Hit α)} {ids : List Int}
    {r : Row} (f : RowOf K P data ids r) (hK : MetKOK K P.basePerc) (h : IdsOK data ids)
    (hc : r.cid ∈ clusterIds ids) (ht0 : 0 ≤ P.t0) :
    minRat ((members data ids r.cid).filterMap (·.height)) ≤ r.base ∧
      r.base ≤ maxRat ((members data ids r.cid).filterMap (·.height)) := by
  obtain ⟨b, hb, ⟨y₁, hy₁, hlo⟩, ⟨y₂, hy₂, hhi⟩⟩ := calcBase_cluster_total K P data ids r.cid hK h hc ht0
  cases f.base.symm.trans hb
  exact ⟨le_trans (minRat_le hy₁) hlo, le_trans hhi (le_maxRat hy₂)⟩

theorem RowOf.okta_range {α} [DecidableEq α] {K : MetK} {P : Prms α} {data : List (Hit α)} {ids : List Int}
    {r : Row} (f : RowOf K P data ids r) (h : IdsOK data ids) (hc : r.cid ∈ clusterIds ids) :
    0 ≤ r.okta ∧ r.okta ≤ 8 := by
  obtain ⟨o, ho, hrange⟩ := oktaOf_cluster_total P data ids r.cid h hc
  cases (f.nHits ▸ f.okta).symm.trans ho
  exact hrange

theorem mkCode_total (o : Int) (b : Rat) (h0 : 0 ≤ o) (h8 : o ≤ 8) : ∃ c, mkCode o b = .ok c := by
  obtain ⟨p, hp, _⟩ := okta2code_table h0 h8
  exact ⟨p ++ height2code (some b), by unfold mkCode; rw [hp]⟩

theorem mkRow_total {α} [DecidableEq α] (K : MetK) (P : Prms α) (w : Which) (data : List (Hit α))
    (ids : List Int) (cid : Int) (hK : MetKOK K P.basePerc) (h : IdsOK data ids)
    (hc : cid ∈ clusterIds ids) (ht0 : 0 ≤ P.t0) : ∃ r, mkRow K P w data ids cid = .ok r := by
  obtain ⟨o, ho, ho0, ho8⟩ := oktaOf_cluster_total P data ids cid h hc
  obtain ⟨b, hb, _, _⟩ := calcBase_cluster_total K P data ids cid hK h hc ht0
  obtain ⟨c, hcode⟩ := mkCode_total o b ho0 ho8
  unfold mkRow baseForMask
  simp only [bind, Except.bind, pure, Except.pure, ho, hb, hcode]
  exact ⟨_, rfl⟩

theorem flagRows_map {γ} (p : Row → γ) (hp : ∀ r s, p { r with significant := s } = p r) (rows : List Row) :
    (flagRows rows).map p = rows.map p := by
  unfold flagRows
  rw [List.map_map]
  have : (p ∘ fun (x : Row × Bool) => { x.1 with significant := x.2 }) = p ∘ Prod.fst := by
    funext x
    exact hp x.1 x.2
  rw [this, ← List.map_map, List.map_fst_zip]
  rw [significantCloud_length, List.length_map]

theorem flagRows_flags (rows : List Row) :
    (flagRows rows).map (·.significant) = significantCloud (rows.map (·.okta)) := by
  unfold flagRows
  rw [List.map_map]
  have : ((fun r : Row => r.significant) ∘ fun (x : Row × Bool) => { x.1 with significant := x.2 }) = Prod.snd := by
    funext x
    rfl
  rw [this, List.map_snd_zip]
  rw [significantCloud_length, List.length_map]

theorem flagRows_mem (rows : List Row) (r : Row) (h : r ∈ flagRows rows) :
    ∃ r₀ ∈ rows, r = { r₀ with significant := r.significant } := by
  unfold flagRows at h
  obtain ⟨x, hx, rfl⟩ := List.mem_map.mp h
  exact ⟨x.1, (List.of_mem_zip hx).1, rfl⟩

theorem baseOrder_perm {K : MetK} {q : Rat} (hK : MetKOK K q) (rows : List Row) :
    (applyPerm (K.baseOrder (rows.map (·.base))) rows).Perm rows :=
  applyPerm_perm _ _ (by have := hK.baseOrder_perm (rows.map (·.base)); rwa [List.length_map] at this)

theorem metarize_sat {α} [DecidableEq α] (K : MetK) (P : Prms α) (w : Which) (layersDone : Bool)
    (data : List (Hit α)) (ids : List Int) :
    Sat (metarize K P w layersDone data ids)
      (fun t => ∃ rows, List.Forall₂ (fun c r => mkRow K P w data ids c = .ok r) (clusterIds ids) rows ∧
        t = flagRows (applyPerm (K.baseOrder (rows.map (·.base))) rows))
      (fun e => (w = .groups ∧ layersDone = true ∧ clusterIds ids ≠ []) ∨
        ∃ c ∈ clusterIds ids, mkRow K P w data ids c = .error e) := by
  unfold metarize
  simp only
  split
  · exact Sat.bind (Q := fun _ => False) (Sat.throw (.inl ‹_›)) fun _ h => h.elim
  · refine Sat.bind (Sat.mapM _ fun c hc => Sat.of_eq fun _ h => .inr ⟨c, hc, h⟩) ?_
    exact fun rows hf => Sat.pure ⟨rows, hf, rfl⟩

/-- No error branch of `metarize` is reachable (C08), unless the call would discard the layering. -/
theorem metarize_ne_error {α} [DecidableEq α] (K : MetK) (P : Prms α) (w : Which) (layersDone : Bool)
    (data : List (Hit α)) (ids : List Int) (hK : MetKOK K P.basePerc) (h : IdsOK data ids) (ht0 : 0 ≤ P.t0)
    (hg : ¬ (w = .groups ∧ layersDone = true ∧ clusterIds ids ≠ [])) (e : AmpyErr) :
    metarize K P w layersDone data ids ≠ .error e := by
  intro he
  obtain ⟨c, hc, herr⟩ := ((metarize_sat K P w layersDone data ids).of_error he).resolve_left hg
  obtain ⟨r, hr⟩ := mkRow_total K P w data ids c hK h hc ht0
  exact ok_ne_error hr herr

theorem metarize_refuses {α} [DecidableEq α] (K : MetK) (P : Prms α) (layersDone : Bool)
    (data : List (Hit α)) (ids : List Int) (hg : layersDone = true ∧ clusterIds ids ≠ []) :
    ∃ why, metarize K P .groups layersDone data ids = .error (.ampy why) := by
  unfold metarize
  simp only [bind, Except.bind, pure, Except.pure]
  rw [if_pos ⟨trivial, hg⟩]
  exact ⟨_, rfl⟩

theorem metarize_cids {α} [DecidableEq α] (K : MetK) (P : Prms α) (w : Which) (layersDone : Bool)
    (data : List (Hit α)) (ids : List Int) (hK : MetKOK K P.basePerc) (t : Table)
    (ht : metarize K P w layersDone data ids = .ok t) :
    (t.map (·.cid)).Perm (clusterIds ids) := by
  obtain ⟨rows, hf, rfl⟩ := (metarize_sat K P w layersDone data ids).of_ok ht
  rw [flagRows_map (·.cid) (fun _ _ => rfl), ← forall₂_map_eq (·.cid) (fun _ _ hr => (mkRow_rowOf hr).1) hf]
  exact (baseOrder_perm hK rows).map _

theorem metarize_mkRow {α} [DecidableEq α] (K : MetK) (P : Prms α) (w : Which) (layersDone : Bool)
    (data : List (Hit α)) (ids : List Int) (hK : MetKOK K P.basePerc) (t : Table)
    (ht : metarize K P w layersDone data ids = .ok t) {r : Row} (hr : r ∈ t) :
    r.cid ∈ clusterIds ids ∧
      ∃ r₀, mkRow K P w data ids r.cid = .ok r₀ ∧ r = { r₀ with significant := r.significant } := by
  obtain ⟨rows, hf, rfl⟩ := (metarize_sat K P w layersDone data ids).of_ok ht
  obtain ⟨r₀, hr₀, hrr⟩ := flagRows_mem _ r hr
  obtain ⟨c, hc, hcr⟩ := forall₂_mem_right hf r₀ ((baseOrder_perm hK rows).subset hr₀)
  have hcid : r.cid = c := by rw [hrr]; exact (mkRow_rowOf hcr).1
  rw [hcid]
  exact ⟨hc, r₀, hcr, hrr⟩

theorem metarize_row {α} [DecidableEq α] (K : MetK) (P : Prms α) (w : Which) (layersDone : Bool)
    (data : List (Hit α)) (ids : List Int) (hK : MetKOK K P.basePerc) (t : Table)
    (ht : metarize K P w layersDone data ids = .ok t) {r : Row} (hr : r ∈ t) :
    r.cid ∈ clusterIds ids ∧ RowOf K P data ids r := by
  obtain ⟨hc, r₀, hm, he⟩ := metarize_mkRow K P w layersDone data ids hK t ht hr
  refine ⟨hc, ?_⟩
  rw [he]
  exact (mkRow_rowOf hm).2.ignores _ _ _

theorem metarize_tableOK {α} [DecidableEq α] (K : MetK) (P : Prms α) (w : Which) (layersDone : Bool)
    (data : List (Hit α)) (ids : List Int) (hK : MetKOK K P.basePerc) (h : IdsOK data ids)
    (hr : HeightsInRange data) (ht0 : 0 ≤ P.t0) (t : Table)
    (ht : metarize K P w layersDone data ids = .ok t) : TableOK t := by
  have hrow := fun r hrt => metarize_row K P w layersDone data ids hK t ht (r := r) hrt
  obtain ⟨rows, _, rfl⟩ := (metarize_sat K P w layersDone data ids).of_ok ht
  refine { sorted := ?sorted, flags := ?flags, codes := fun r hrt => (hrow r hrt).2.code,
           oktas := fun r hrt => (hrow r hrt).2.okta_range h (hrow r hrt).1, bases := fun r hrt => ?bases }
  case sorted =>
    rw [← List.pairwise_map (f := fun r : Row => r.base) (R := fun a b : Rat => a ≤ b)]
    rw [flagRows_map (·.base) (fun _ _ => rfl), ← applyPerm_map]
    exact hK.baseOrder_sorted _
  case flags => rw [flagRows_flags, flagRows_map (·.okta) (fun _ _ => rfl)]
  case bases =>
    obtain ⟨hc, f⟩ := hrow r hrt
    obtain ⟨b, hb, ⟨y₁, hy₁, hlo⟩, ⟨y₂, hy₂, hhi⟩⟩ := calcBase_cluster_total K P data ids r.cid hK h hc ht0
    cases f.base.symm.trans hb
    obtain ⟨m₁, hm₁, hh₁⟩ := List.mem_filterMap.mp hy₁
    obtain ⟨m₂, hm₂, hh₂⟩ := List.mem_filterMap.mp hy₂
    have sub := (members_sublist data ids r.cid).subset
    exact ⟨le_trans (hr m₁ (sub hm₁) y₁ hh₁).1 hlo, lt_of_le_of_lt hhi (hr m₂ (sub hm₂) y₂ hh₂).2⟩

/-- The `layersDone` argument of `metarize` only decides whether groups are refused after layering. -/
theorem metarize_layersDone {α} [DecidableEq α] (K : MetK) (P : Prms α) (w : Which) (b : Bool) (data : List (Hit α)) (ids : List Int)
    (h : w = .groups → b = true → clusterIds ids = []) :
    metarize K P w b data ids = metarize K P w false data ids := by
  have hn : ¬ (w = .groups ∧ b = true ∧ clusterIds ids ≠ []) := fun ⟨hw, hb, hc⟩ => hc (h hw hb)
  unfold metarize
  simp [hn]

theorem metarize_of_ne_groups {α} [DecidableEq α] (K : MetK) (P : Prms α) {w : Which} (hw : w ≠ .groups) (b b' : Bool) (data : List (Hit α))
    (ids : List Int) : metarize K P w b data ids = metarize K P w b' data ids :=
  (metarize_layersDone K P w b data ids fun h => absurd h hw).trans
    (metarize_layersDone K P w b' data ids fun h => absurd h hw).symm

theorem metarize_groups_layered {α} [DecidableEq α] (K : MetK) (P : Prms α) (hK : MetKOK K P.basePerc) (data : List (Hit α)) (ids : List Int)
    (t : Table) (ht : metarize K P .groups false data ids = .ok t) :
    (∃ why, metarize K P .groups true data ids = .error (.ampy why)) ∨
      (metarize K P .groups true data ids = .ok t ∧ t = []) := by
  by_cases hc : clusterIds ids = []
  · have hperm := metarize_cids K P .groups false data ids hK t ht
    rw [hc] at hperm
    exact .inr ⟨(metarize_layersDone K P .groups true data ids fun _ _ => hc).trans ht,
      List.map_eq_nil_iff.mp hperm.eq_nil⟩
  · exact .inl (metarize_refuses K P true data ids ⟨rfl, hc⟩)

end Ampy
