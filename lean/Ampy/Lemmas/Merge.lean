import Ampy.Lemmas.Ids
import Mathlib.Tactic.Linarith
/-!
`_merge_close_groups` and the group ids of `find_groups`. The loop is walked once (`mergeLoop_sat`) with the property
of the id column left as a parameter: anything kept when one present group is merged into another holds at the end,
with the exit condition, the bases being current and the table listing the groups present. The theorems on
`mergeCloseGroups` and `groupIds` (id invariant, separation of the reported groups, totality) are instances.
-/
namespace Ampy

theorem firstTooClose_sat {α} (P : Prms α) (bases : List Rat) :
    Sat (firstTooClose P bases)
      (fun r => ∃ seps, List.Forall₂ (fun c s => minSepFor P c = .ok s) bases seps ∧
        r = (List.range bases.length).find? fun k =>
          k ≥ 1 && (match bases[k]?, bases[k - 1]?, seps[k]? with
            | some b, some a, some s => decide (b - a < s)
            | _, _, _ => false))
      (fun _ => ¬ SepShape P) := by
  unfold firstTooClose
  exact Sat.bind (Sat.mapM _ fun c _ => Sat.of_eq fun _ he => ((minSepFor_sat P c).of_error he).1)
    fun seps hf => ⟨seps, hf, rfl⟩

theorem firstTooClose_some {α} (P : Prms α) (bases : List Rat) (k : Nat)
    (h : firstTooClose P bases = .ok (some k)) : 1 ≤ k ∧ k < bases.length := by
  obtain ⟨seps, _, hr⟩ := (firstTooClose_sat P bases).of_ok h
  have h1 := List.find?_some hr.symm
  have h2 := List.mem_range.mp (List.mem_of_find?_eq_some hr.symm)
  simp only [ge_iff_le, Bool.and_eq_true, decide_eq_true_eq] at h1
  exact ⟨h1.1, h2⟩

/-- The exit test of the loop (no neighbour too close) separates *all* pairs: non-negative separations make the list
sorted. -/
theorem separated_of_none {α} (P : Prms α) (hs : SepShape P) (hn : SepNonneg P) (bases : List Rat)
    (h : firstTooClose P bases = .ok none) : Separated P bases := by
  obtain ⟨seps, hf, hnone⟩ := (firstTooClose_sat P bases).of_ok h
  obtain ⟨σ, hσ⟩ : ∃ σ : Rat → Rat, ∀ x, minSepFor P x = .ok (σ x) ∧ 0 ≤ σ x :=
    ⟨fun x => (minSepFor P x).toOption.getD 0, fun x => by
      obtain ⟨v, hv, _, hm, _⟩ := (minSepFor_sat P x).exists_ok fun _ h => h.1 hs
      simp only [hv]
      exact ⟨rfl, hn v hm⟩⟩
  have hadj : ∀ k (hk : k + 1 < bases.length), bases[k + 1] - bases[k] ≥ σ bases[k + 1] := by
    intro k hk
    have hk' : k + 1 < seps.length := hf.length_eq ▸ hk
    have hsep : seps[k + 1] = σ bases[k + 1] := Except.ok.inj ((hf.get hk hk').symm.trans (hσ _).1)
    have := (List.find?_eq_none.mp hnone.symm) (k + 1) (List.mem_range.mpr hk)
    -- the test at `k + 1` reads three entries that exist: it is `bases[k + 1] - bases[k] < seps[k + 1]`
    rw [Nat.add_sub_cancel, List.getElem?_eq_getElem hk, List.getElem?_eq_getElem (Nat.lt_of_succ_lt hk),
      List.getElem?_eq_getElem hk', hsep] at this
    simp only [ge_iff_le, Nat.le_add_left, decide_true, Bool.true_and, decide_eq_true_eq, not_lt] at this
    exact this
  exact fun i j hij hj => ⟨_, (hσ _).1, gaps_of_adjacent_gaps bases σ (fun x => (hσ x).2) hadj i j hij hj⟩

/-- Whichever of the two comes first in the list: equal values included, since separations are non-negative. -/
theorem Separated.of_ne {α} {P : Prms α} (hs : SepShape P) (hn : SepNonneg P) {l : List Rat} (h : Separated P l)
    {p q : Nat} (hp : p < l.length) (hq : q < l.length) (hpq : p ≠ q) (hle : l[p] ≤ l[q]) :
    ∃ s, minSepFor P l[q] = .ok s ∧ l[q] - l[p] ≥ s := by
  rcases Nat.lt_or_gt_of_ne hpq with hlt | hlt
  · exact h p q hlt hq
  · obtain ⟨s, hs1, hs2⟩ := h q p hlt hp
    obtain ⟨v, hv, _, hmem, _⟩ := (minSepFor_sat P l[p]).exists_ok fun _ h => h.1 hs
    obtain rfl : s = v := Except.ok.inj (hs1.symm.trans hv)
    have h0 := hn _ hmem
    have heq : l[p] = l[q] := le_antisymm hle (by linarith)
    exact ⟨s, heq ▸ hs1, by linarith⟩

/-- `groupBase` reads the id column only through the membership test of the group. -/
theorem groupBase_relabel {α} [DecidableEq α] (K : Kern) (P : PPrms α) (data : List (Hit α)) (gids : List Int)
    (a b c : Int) (h1 : c ≠ a) (h2 : c ≠ b) :
    groupBase K P data (relabel gids a b) c = groupBase K P data gids c := by
  have h : (relabel gids a b).map (· == c) = gids.map (· == c) := by
    rw [relabel, List.map_map]
    refine List.map_congr_left fun g _ => ?_
    simp only [Function.comp_apply]
    by_cases hg : g = a
    · rw [if_pos hg, hg, beq_eq_false_iff_ne.mpr (Ne.symm h2), beq_eq_false_iff_ne.mpr (Ne.symm h1)]
    · rw [if_neg hg]
  unfold groupBase baseMask
  simp only [h]

theorem mem_clusterIds_relabel (gids : List Int) (a b x : Int) (hne : b ≠ a) (hb : b ∈ gids) :
    x ∈ clusterIds (relabel gids a b) ↔ x ∈ clusterIds gids ∧ x ≠ a := by
  rw [mem_clusterIds, mem_clusterIds, relabel, mem_map_replace gids a b hne hb, and_right_comm]

theorem merge_step_inv {α} [DecidableEq α] (K : Kern) (P : PPrms α) (data : List (Hit α))
    (gids : List Int) (prelim : List (Int × Rat))
    (hcur : BasesCurrent K P data gids prelim)
    (hcids : (prelim.map (·.1)).Perm (clusterIds gids))
    (k : Nat) (hk1 : 1 ≤ k) (hk : k < prelim.length)
    (cidK cidB : Int) (bK bB b : Rat)
    (hK : prelim[k]? = some (cidK, bK)) (hB : prelim[k - 1]? = some (cidB, bB))
    (hb : groupBase K P data (relabel gids cidK cidB) cidB = .ok b) :
    ((prelim.eraseIdx k).set (k - 1) (cidB, b)).length = prelim.length - 1 ∧
    BasesCurrent K P data (relabel gids cidK cidB)
      ((prelim.eraseIdx k).set (k - 1) (cidB, b)) ∧
    (((prelim.eraseIdx k).set (k - 1) (cidB, b)).map (·.1)).Perm
      (clusterIds (relabel gids cidK cidB)) := by
  have hnd : (prelim.map (·.1)).Nodup := hcids.nodup_iff.mpr (clusterIds_nodup gids)
  have hk0 : k - 1 < prelim.length := by omega
  have hKe : prelim[k] = (cidK, bK) := (List.getElem?_eq_some_iff.mp hK).2
  have hBe : prelim[k - 1] = (cidB, bB) := (List.getElem?_eq_some_iff.mp hB).2
  have hnotK : ∀ j (hj : j < prelim.length), j ≠ k → prelim[j].1 ≠ cidK := fun j hj hjk he =>
    hjk (getElem?_inj_of_map_nodup hnd (List.getElem?_eq_getElem hj) hK he)
  have hnotB : ∀ j (hj : j < prelim.length), j ≠ k - 1 → prelim[j].1 ≠ cidB := fun j hj hjk he =>
    hjk (getElem?_inj_of_map_nodup hnd (List.getElem?_eq_getElem hj) hB he)
  refine ⟨?_, ?_, ?_⟩
  · rw [List.length_set, List.length_eraseIdx, if_pos hk]
  · intro e he
    rcases mem_set_eraseIdx prelim k _ e hk1 hk he with rfl | ⟨j, hj, hjk, hjk1, rfl⟩
    · exact hb
    · rw [groupBase_relabel K P data gids cidK cidB _ (hnotK j hj hjk) (hnotB j hj hjk1)]
      exact hcur _ (List.getElem_mem hj)
  · have hk' : k < (prelim.map (·.1)).length := by rwa [List.length_map]
    have hKc : (prelim.map (·.1))[k] = cidK := by rw [List.getElem_map, hKe]
    have hBg := (mem_clusterIds gids _).mp (hcids.subset (List.mem_map.mpr ⟨_, List.getElem_mem hk0, rfl⟩))
    rw [hBe] at hBg
    have hne : cidB ≠ cidK := fun e => hnotK (k - 1) hk0 (by omega) (by rw [hBe]; exact e)
    rw [map_set_eraseIdx (·.1) prelim k _ hk1 hk (by rw [hBe]), ← hnd.erase_getElem k hk', hKc]
    refine (List.perm_ext_iff_of_nodup (hnd.erase _) (clusterIds_nodup _)).mpr fun a => ?_
    rw [hnd.mem_erase_iff, hcids.mem_iff, mem_clusterIds_relabel gids cidK cidB a hne hBg.1, and_comm]

/-- The loop of `_merge_close_groups`, for any property `I` of the id column kept by merging one present group into
another, and any fuel that covers the table (each iteration removes a row). -/
theorem mergeLoop_sat {α} [DecidableEq α] (K : Kern) (P : PPrms α) (data : List (Hit α)) (I : List Int → Prop)
    (hI : ∀ g a b, I g → a ∈ clusterIds g → b ∈ clusterIds g → I (relabel g a b)) :
    ∀ (fuel : Nat) (gids : List Int) (prelim : List (Int × Rat)), prelim.length ≤ fuel →
      BasesCurrent K P data gids prelim → (prelim.map (·.1)).Perm (clusterIds gids) → I gids →
      Sat (mergeLoop K P data fuel gids prelim)
        (fun out => I out.1 ∧ firstTooClose P.toPrms (out.2.map (·.2)) = .ok none ∧
          BasesCurrent K P data out.1 out.2 ∧ (out.2.map (·.1)).Perm (clusterIds out.1))
        (fun e => ¬ SepShape P.toPrms ∨
          ∃ g cid, I g ∧ cid ∈ clusterIds g ∧ groupBase K P data g cid = .error e) := by
  intro fuel
  induction fuel with
  | zero =>
    intro gids prelim hf hcur hcids h0
    obtain rfl := List.length_eq_zero_iff.mp (Nat.le_zero.mp hf)
    exact ⟨h0, rfl, hcur, hcids⟩
  | succ n ih =>
    intro gids prelim hf hcur hcids h0
    rw [mergeLoop_succ]
    refine Sat.bind (Sat.of_eq fun _ he => .inl ((firstTooClose_sat P.toPrms _).of_error he))
      fun r hr => ?_
    cases r with
    | none => exact ⟨h0, hr, hcur, hcids⟩
    | some k =>
      obtain ⟨hk1, hk⟩ := firstTooClose_some _ _ k hr
      rw [List.length_map] at hk
      have hmem : ∀ j (hj : j < prelim.length), prelim[j].1 ∈ clusterIds gids := fun j hj =>
        hcids.subset (List.mem_map.mpr ⟨_, List.getElem_mem hj, rfl⟩)
      have hK := List.getElem?_eq_getElem hk
      have hB := List.getElem?_eq_getElem (show k - 1 < prelim.length by omega)
      have hBc : (prelim[k - 1]'(by omega)).1 ∈ clusterIds (relabel gids prelim[k].1 (prelim[k - 1]'(by omega)).1) := by
        have := (mem_clusterIds gids _).mp (hmem (k - 1) (by omega))
        exact (mem_clusterIds _ _).mpr ⟨List.mem_map.mpr ⟨_, this.1, ite_self _⟩, this.2⟩
      have h1 := hI gids _ _ h0 (hmem k hk) (hmem (k - 1) (by omega))
      simp only [hK, hB]
      refine Sat.bind (Sat.of_eq fun e he => .inr ⟨_, _, h1, hBc, he⟩) fun b hb => ?_
      obtain ⟨hlen, hcur', hcids'⟩ := merge_step_inv K P data gids prelim hcur hcids k hk1 hk prelim[k].1
        (prelim[k - 1]'(by omega)).1 prelim[k].2 (prelim[k - 1]'(by omega)).2 b hK hB hb
      exact ih _ _ (by rw [hlen]; omega) hcur' hcids' h1

theorem mergeCloseGroups_sat {α} [DecidableEq α] (K : Kern) (P : PPrms α) (data : List (Hit α)) (q : Rat)
    (hK : KernOK K q) (I : List Int → Prop)
    (hI : ∀ g a b, I g → a ∈ clusterIds g → b ∈ clusterIds g → I (relabel g a b)) (gids : List Int) (h0 : I gids) :
    Sat (mergeCloseGroups K P data gids)
      (fun out => I out ∧ ∃ pr, firstTooClose P.toPrms (pr.map (·.2)) = .ok none ∧
        BasesCurrent K P data out pr ∧ (pr.map (·.1)).Perm (clusterIds out))
      (fun e => ¬ SepShape P.toPrms ∨
        ∃ g cid, I g ∧ cid ∈ clusterIds g ∧ groupBase K P data g cid = .error e) := by
  rw [mergeCloseGroups_eq]
  refine Sat.bind (Sat.mapM (R := fun c b => groupBase K P data gids c = .ok b) _ fun c hc =>
    Sat.of_eq fun e he => .inr ⟨gids, c, h0, hc, he⟩) fun bases hf2 => ?_
  have hperm : (applyPerm (K.prelimOrder bases) ((clusterIds gids).zip bases)).Perm ((clusterIds gids).zip bases) := by
    apply applyPerm_perm
    have := hK.prelimOrder_perm bases
    rwa [List.length_zip, hf2.length_eq, Nat.min_self]
  have hcids : ((applyPerm (K.prelimOrder bases) ((clusterIds gids).zip bases)).map (·.1)).Perm (clusterIds gids) := by
    have := hperm.map (·.1)
    rwa [List.map_fst_zip (le_of_eq hf2.length_eq)] at this
  exact Sat.bind (mergeLoop_sat K P data I hI _ gids _ (le_refl _)
    (fun e he => List.forall₂_zip hf2 (hperm.subset he)) hcids h0) fun out h => ⟨h.1, out.2, h.2⟩

theorem exists_prelim_entry {α} [DecidableEq α] (K : Kern) (P : PPrms α) (data : List (Hit α)) (gids : List Int)
    (pr : List (Int × Rat)) (hcur : BasesCurrent K P data gids pr)
    (hcids : (pr.map (·.1)).Perm (clusterIds gids)) (c : Int) (hc : c ∈ clusterIds gids) (b : Rat)
    (hb : groupBase K P data gids c = .ok b) : ∃ i, ∃ (hi : i < pr.length), pr[i] = (c, b) := by
  obtain ⟨e, he, hec⟩ := List.mem_map.mp (hcids.symm.subset hc)
  obtain ⟨i, hi, rfl⟩ := List.mem_iff_getElem.mp he
  refine ⟨i, hi, ?_⟩
  have h2 := hcur _ he
  rw [hec, hb] at h2
  exact Prod.ext hec (Except.ok.inj h2).symm

/-- After `_merge_close_groups` the bases of the groups present (as `metarize` computes them, exclusions included)
are pairwise separated: `b₂ - b₁ ≥ minSep(b₂)` for distinct groups with `b₁ ≤ b₂`. -/
theorem mergeCloseGroups_separated {α} [DecidableEq α] (K : Kern) (P : PPrms α) (data : List (Hit α))
    (hK : KernOK K P.basePerc) (hs : SepShape P.toPrms) (hn : SepNonneg P.toPrms)
    (gids gids' : List Int) (h : mergeCloseGroups K P data gids = .ok gids') :
    ∀ c₁ ∈ clusterIds gids', ∀ c₂ ∈ clusterIds gids', c₁ ≠ c₂ →
      ∀ b₁ b₂, groupBase K P data gids' c₁ = .ok b₁ → groupBase K P data gids' c₂ = .ok b₂ → b₁ ≤ b₂ →
        ∃ s, minSepFor P.toPrms b₂ = .ok s ∧ b₂ - b₁ ≥ s := by
  obtain ⟨_, pr, hnone, hcur', hcids'⟩ :=
    (mergeCloseGroups_sat K P data _ hK (I := fun _ => True) (fun _ _ _ _ _ _ => trivial) gids trivial).of_ok h
  have hsep := separated_of_none P.toPrms hs hn _ hnone
  intro c₁ hc₁ c₂ hc₂ hne b₁ b₂ hb₁ hb₂ hle
  obtain ⟨i₁, hi₁, he₁⟩ := exists_prelim_entry K P data gids' pr hcur' hcids' c₁ hc₁ b₁ hb₁
  obtain ⟨i₂, hi₂, he₂⟩ := exists_prelim_entry K P data gids' pr hcur' hcids' c₂ hc₂ b₂ hb₂
  have hi12 : i₁ ≠ i₂ := fun he => hne (by subst he; exact (Prod.ext_iff.mp (he₁.symm.trans he₂)).1)
  have := hsep.of_ne hs hn (p := i₁) (q := i₂) (by rw [List.length_map]; exact hi₁) (by rw [List.length_map]; exact hi₂)
    hi12 (by simpa only [List.getElem_map, he₁, he₂] using hle)
  simpa only [List.getElem_map, he₁, he₂] using this

theorem groups_table_separated {α} [DecidableEq α] (K : Kern) (P : PPrms α) (data : List (Hit α))
    (hK : KernOK K P.basePerc) (hs : SepShape P.toPrms) (hn : SepNonneg P.toPrms)
    (gids gids' : List Int) (h : mergeCloseGroups K P data gids = .ok gids')
    (t : Table) (ht : metarize K.toMetK P.toPrms .groups false data gids' = .ok t) :
    ∀ r₁ ∈ t, ∀ r₂ ∈ t, r₁.cid ≠ r₂.cid → r₁.base ≤ r₂.base →
      ∃ s, minSepFor P.toPrms r₂.base = .ok s ∧ r₂.base - r₁.base ≥ s := by
  have hrow := fun r hr => metarize_row K.toMetK P.toPrms .groups false data gids' hK.met t ht (r := r) hr
  intro r₁ hr₁ r₂ hr₂ hne hle
  exact mergeCloseGroups_separated K P data hK hs hn gids gids' h r₁.cid (hrow r₁ hr₁).1
    r₂.cid (hrow r₂ hr₂).1 hne r₁.base r₂.base (hrow r₁ hr₁).2.base (hrow r₂ hr₂).2.base hle

/-- Invariant of the group id column during `_merge_close_groups`. -/
structure GidsOK {α} (data : List (Hit α)) (sids : List Int) (ids : List Int) : Prop where
  exact : IdsExact data ids
  sub : ∀ g ∈ ids, g ∈ sids

theorem fillIds_gidsOK {α} (data : List (Hit α)) (sids : List Int) (hs : IdsExact data sids)
    (g : List (Option Int)) (hg : PartialGidsOK data sids g) : GidsOK data sids (fillIds g sids) := by
  refine ⟨fillIds_exact hs hg.len fun i m hm => ?_, fun v hv => ?_⟩
  · obtain ⟨⟨hi, hh⟩, hm0, _⟩ := hg.entry i m hm
    have his : i < sids.length := hs.len ▸ hi
    exact ⟨hm0, sids[i], List.getElem?_eq_getElem his, (hs.valid _ (zip_getElem_mem data sids i hi his)).1 hh⟩
  · obtain ⟨i, hi⟩ := List.mem_iff_getElem?.mp hv
    obtain ⟨x, s, hx, hsi, rfl⟩ := (fillIds_getElem? g sids i v).mp hi
    cases x with
    | none => exact List.mem_of_getElem? hsi
    | some m => exact (hg.entry i m hx).2.2

theorem GidsOK_relabel {α} {data : List (Hit α)} {sids g : List Int} (a b : Int) (h : GidsOK data sids g)
    (ha : a ∈ clusterIds g) (hb : b ∈ clusterIds g) : GidsOK data sids (relabel g a b) := by
  have hm : ∀ c ∈ clusterIds g, 0 ≤ c ∧ c ∈ sids := fun c hc => by
    obtain ⟨h1, h2⟩ := (mem_clusterIds g c).mp hc
    have := h.exact.toOK.ge c h1
    exact ⟨by omega, h.sub c h1⟩
  refine ⟨h.exact.map _ (fun x _ hx => ?_) (if_neg fun e => ?_), fun x hx => ?_⟩
  · split
    · exact (hm b hb).1
    · exact hx
  · exact absurd (hm a ha).1 (by omega)
  · obtain ⟨y, hy, rfl⟩ := List.mem_map.mp hx
    split
    · exact (hm b hb).2
    · exact h.sub y hy

/-- For any `q`: of `KernOK` only `prelimOrder_perm` is read. -/
theorem groupIds_sat {α} [DecidableEq α] (K : Kern) (P : PPrms α) (data : List (Hit α)) (q : Rat) (hK : KernOK K q)
    (sids : List Int) (slices : Table) (hs : IdsExact data sids) :
    Sat (groupIds K P data sids slices)
      (fun r => GidsOK data sids r.1 ∧ (∃ g0, mergeCloseGroups K P data g0 = .ok r.1) ∧
        r.2 = (bundlesOf (P.padPerc / 100) slices).2)
      (fun e => ¬ SepShape P.toPrms ∨
        ∃ g cid, GidsOK data sids g ∧ cid ∈ clusterIds g ∧ groupBase K P data g cid = .error e) := by
  rw [groupIds_eq]
  refine Sat.bind (Sat.foldlM _ _ (PartialGidsOK_init data sids) fun g b _ hg =>
    (groupBundle_sat K P data sids slices hs b g hg).mono (fun _ h => h) fun _ h => h.elim) fun g1 hg1 => ?_
  exact Sat.bind (mergeCloseGroups_sat K P data q hK (GidsOK data sids)
    (fun _ a b h => GidsOK_relabel a b h) _ (fillIds_gidsOK data sids hs g1 hg1)).with_eq
    fun merged hm => ⟨hm.2.1, ⟨_, hm.1⟩, rfl⟩

theorem groupIds_exact {α} [DecidableEq α] (K : Kern) (P : PPrms α) (data : List (Hit α)) (q : Rat)
    (hK : KernOK K q) (sids : List Int) (slices : Table) (hs : IdsExact data sids)
    (gids : List Int) (iso : List Bool) (h : groupIds K P data sids slices = .ok (gids, iso)) :
    IdsExact data gids :=
  ((groupIds_sat K P data q hK sids slices hs).of_ok h).1.exact

theorem groupIds_subset {α} [DecidableEq α] (K : Kern) (P : PPrms α) (data : List (Hit α)) (q : Rat)
    (hK : KernOK K q) (sids : List Int) (slices : Table) (hs : IdsExact data sids)
    (gids : List Int) (iso : List Bool) (h : groupIds K P data sids slices = .ok (gids, iso)) :
    ∀ g ∈ gids, g ∈ sids :=
  ((groupIds_sat K P data q hK sids slices hs).of_ok h).1.sub

theorem groupIds_total {α} [DecidableEq α] (K : Kern) (P : PPrms α) (hK : KernOK K P.basePerc) (hP : PrmsOK P)
    (data : List (Hit α)) (sids : List Int) (slices : Table) (hs : IdsExact data sids) :
    ∃ r, groupIds K P data sids slices = .ok r :=
  ((groupIds_sat K P data _ hK sids slices hs).exists_ok (by
    rintro e (h | ⟨g, cid, hg, hc, he⟩)
    · exact h hP.sep
    · obtain ⟨b, hb, _⟩ := calcBase_cluster_total K.toMetK P.toPrms data g cid hK.met hg.exact.toOK hc hP.t0
      cases hb.symm.trans he)).imp fun _ h => h.1

end Ampy
