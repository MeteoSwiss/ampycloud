import Ampy.Lemmas.LayerOutcome
import Ampy.Lemmas.Run
/-!
Second clause of C06, end to end: when a group is split into as many layers as the selected mixture distinguishes (the
re-merge pass of `ncomp_from_gmm` merged nothing) and no ceilometer is excluded, any two of these layers are at least
the group's minimum separation apart.  A pass that merged nothing certifies the gaps of the sorted bases by itself
(`gmmTail_unmerged`); `SplitGroup.layers_apart` combines this with the rows the loop wrote; `run_splitGroup` finds the
`SplitGroup` in a run.
-/
namespace Ampy

theorem pairwise_apart_of_perm {s : Rat} {sb l : List Rat} (hp : sb.Perm l)
    (h : ∀ i j (_ : i < j) (hj : j < sb.length), sb[j] - sb[i]'(by omega) ≥ s) :
    l.Pairwise fun a b => s ≤ b - a ∨ s ≤ a - b :=
  (hp.pairwise_iff Or.symm).mp (List.pairwise_iff_getElem.mpr fun i j _ hj hij => .inl (h i j hij hj))

theorem compBases_apart {α} {K : Kern} {P : PPrms α} {vals : List Rat} {labels : List Nat} {n : Nat}
    {bases : List Rat} (hb : compBases K P vals labels n = .ok bases) {s : Rat}
    (hpw : bases.Pairwise fun a b => s ≤ b - a ∨ s ≤ a - b)
    {i j : Nat} (hi : i < n) (hj : j < n) (hij : i ≠ j) {bi bj : Rat}
    (hbi : calcBase K.pctl (compVals vals labels i) P.lookback P.basePerc = .ok bi)
    (hbj : calcBase K.pctl (compVals vals labels j) P.lookback P.basePerc = .ok bj) (hle : bi ≤ bj) :
    bj - bi ≥ s := by
  suffices h : s ≤ bj - bi ∨ s ≤ bi - bj from
    h.elim id fun h => h.trans ((sub_nonpos.mpr hle).trans (sub_nonneg.mpr hle))
  have hl := compBases_length hb
  have hget : ∀ k (hk : k < bases.length) b,
      calcBase K.pctl (compVals vals labels k) P.lookback P.basePerc = .ok b → bases[k] = b := fun k hk b h =>
    Except.ok.inj ((forall₂_getElem? ((compBases_sat ..).of_ok hb) (List.getElem?_range (hl ▸ hk))
      (List.getElem?_eq_getElem hk)).symm.trans h)
  obtain rfl := hget i (hl ▸ hi) bi hbi
  obtain rfl := hget j (hl ▸ hj) bj hbj
  rw [List.pairwise_iff_getElem] at hpw
  rcases Nat.lt_or_gt_of_ne hij with hlt | hlt
  · exact hpw i j _ _ hlt
  · exact (hpw j i _ _ hlt).symm

theorem gmmTail_unmerged {α} (K : Kern) (P : PPrms α) (hK : KernOK K P.basePerc) (vals : List Rat) (minSep : Rat)
    (fits : List GmmFit) (best : Nat) (f : GmmFit) (hf : fits[best]? = some f) (ids : List Nat)
    (ht : gmmTail K P vals minSep fits best = .ok (best + 1, ids)) :
    ids = f.labels ∧ (0 ≤ minSep → ∀ i j, i < best + 1 → j < best + 1 → i ≠ j → ∀ bi bj,
      calcBase K.pctl (compVals vals ids i) P.lookback P.basePerc = .ok bi →
      calcBase K.pctl (compVals vals ids j) P.lookback P.basePerc = .ok bj → bi ≤ bj → bj - bi ≥ minSep) := by
  obtain ⟨f', hf', ⟨hb0, hr⟩ | ⟨_, bases, hbases, rm, hrm, _, hr⟩⟩ := (gmmTail_sat K P vals minSep fits best).of_ok ht
  · obtain rfl := Option.some.inj (hf.symm.trans hf')
    exact ⟨(Prod.mk.inj hr).2, fun _ i j hi hj hij => absurd hij (by omega)⟩
  obtain rfl := Option.some.inj (hf.symm.trans hf')
  obtain ⟨hn, rfl⟩ := Prod.mk.inj hr
  -- the unmerged pass returns the labels and certifies the gaps of the sorted bases, a rearrangement of `bases`
  have hperm := hK.argsort_perm bases
  have hsb := applyPerm_perm _ _ hperm
  obtain ⟨hid, hsep⟩ := remerge_unmerged (minSep := minSep) (applyPerm (K.argsort bases) bases) (K.argsort bases)
    f.labels (best + 1) (by rw [isPermOf_length hperm, hsb.length_eq]) (Nat.succ_pos _) (hrm ▸ hn.symm)
  rw [hrm, hid]
  exact ⟨rfl, fun h0 i j hi hj hij bi bj hbi hbj hle =>
    compBases_apart hbases (pairwise_apart_of_perm hsb (hsep h0)) hi hj hij hbi hbj hle⟩

/-- Whatever the mode string: the fall-back index 0 of an unknown mode only ever yields one component. -/
theorem ncompFromGmm_selected {α} (K : Kern) (P : PPrms α) (hK : KernOK K P.basePerc) (vals : List Rat) (m : Nat)
    (minSep : Rat) (n : Nat) (ids : List Nat) (h : ncompFromGmm K P vals m minSep = .ok (n, ids)) (hn2 : 2 ≤ n) :
    ∃ best f, (gmmFits K P vals m)[best]? = some f ∧ selectedFit K P vals m = some (best + 1, f) ∧
      gmmTail K P vals minSep (gmmFits K P vals m) best = .ok (n, ids) := by
  rcases ncompFromGmm_cases K P vals m minSep _ h with h | ⟨best, hbest, ht⟩
  · exact absurd (Prod.mk.inj h).1 (by omega)
  obtain ⟨_, _, _, hle, _⟩ := gmmTail_post K P hK vals m minSep best n ids ht
  obtain ⟨f, hf, _⟩ := (gmmTail_sat K P vals minSep _ best).of_ok ht
  rcases gmmBest_post K P _ _ hbest with hb | hb
  · exact ⟨best, f, hf, by rw [selectedFit_eq, ← hb, hf]; rfl, ht⟩
  · omega

theorem ncompFromGmm_unmerged_separated {α} (K : Kern) (P : PPrms α) (hK : KernOK K P.basePerc)
    (vals : List Rat) (m : Nat) (minSep : Rat) (h0 : 0 ≤ minSep)
    (n : Nat) (ids : List Nat) (h : ncompFromGmm K P vals m minSep = .ok (n, ids)) (hn2 : 2 ≤ n)
    (f : GmmFit) (hsel : selectedFit K P vals m = some (n, f)) :
    ∀ i j, i < n → j < n → i ≠ j → ∀ bi bj,
      calcBase K.pctl (compVals vals ids i) P.lookback P.basePerc = .ok bi →
      calcBase K.pctl (compVals vals ids j) P.lookback P.basePerc = .ok bj →
      bi ≤ bj → bj - bi ≥ minSep := by
  obtain ⟨best, f', hf, hs, ht⟩ := ncompFromGmm_selected K P hK vals m minSep n ids h hn2
  obtain ⟨rfl, rfl⟩ := Prod.mk.inj (Option.some.inj (hs.symm.trans hsel))
  exact (gmmTail_unmerged K P hK vals minSep _ best f' hf ids ht).2 h0

theorem layerIds_gmm_call {α} [DecidableEq α] (K : Kern) (P : PPrms α) (data : List (Hit α)) (gids : List Int)
    (groups : Table) (lids ncomps : List Int) (h : layerIds K P data gids groups = .ok (lids, ncomps))
    (ind : Nat) (g : Row) (hgi : groups[ind]? = some g) (n : Nat) (hn : ncomps[ind]? = some (n : Int))
    (minSep : Rat) (hms : minSepFor P.toPrms g.base = .ok minSep) :
    ∃ ids, ncompFromGmm K P (groupHeights K data gids g.cid)
      (min ((groupHeights K data gids g.cid).eraseDups).length 3) minSep = .ok (n, ids) := by
  obtain ⟨o, ho, hc⟩ := forall₂_getElem? ((layerIds_decisions K P data gids groups).of_ok h) hgi hn
  obtain ⟨ids, rfl⟩ := ncompOf_natCast hc
  obtain ⟨_, minSep', hms', hr⟩ := (layerDecide_sat K P data gids g).of_ok ho _ rfl
  obtain rfl : minSep' = minSep := Except.ok.inj (hms'.symm.trans hms)
  exact ⟨ids, hr⟩

section
variable {α} [DecidableEq α] {K : Kern} {P : PPrms α} {data : List (Hit α)} {gids : List Int} {groups : Table}
  {lids ncomps : List Int} {ind : Nat} {g : Row} {n : Nat} {minSep : Rat} {ids : List Nat} {f : GmmFit}

theorem SplitGroup.lids_of_group (S : SplitGroup K P data gids groups lids ncomps ind g n minSep ids)
    (hsel : selectedFit K P (groupHeights K data gids g.cid)
      (min ((groupHeights K data gids g.cid).eraseDups).length 3) = some (n, f)) (i : Nat) (l : Int)
    (hgi : gids[i]? = some g.cid) (hli : lids[i]? = some l) :
    ∃ j : Nat, j < n ∧ l = lidOffset gids + 10 * (ind : Int) + (j : Int) := by
  obtain ⟨best, f', _, hs, ht⟩ := ncompFromGmm_selected K P S.kern _ _ minSep n ids S.call S.two
  obtain ⟨rfl, _⟩ := Prod.mk.inj (Option.some.inj (hs.symm.trans hsel))
  obtain ⟨_, hlen2, hlt, _⟩ := gmmTail_post K P S.kern _ _ minSep best _ ids ht
  have hlen1 := groupHeights_length K S.exact g.cid S.cid_nonneg
  obtain ⟨j, hj, rfl⟩ := List.mem_iff_getElem.mp (mem_grpPos_of K _ S.kern data gids S.exact.len g.cid i hgi)
  have hj2 : j < ids.length := by omega
  exact ⟨ids[j], hlt _ (List.getElem_mem _), Option.some.inj ((S.rows j hj hj2).symm.trans hli).symm⟩

/-- Nothing re-merged, no exclusion: the rows carrying the `n` generated ids, and any two rows whose id is met on the
group's hits, are `minSep` apart. -/
theorem SplitGroup.layers_apart (S : SplitGroup K P data gids groups lids ncomps ind g n minSep ids)
    (hsel : selectedFit K P (groupHeights K data gids g.cid)
      (min ((groupHeights K data gids g.cid).eraseDups).length 3) = some (n, f))
    (hex : P.exclude = []) (h0 : 0 ≤ minSep) {lay : Table}
    (hlay : metarize K.toMetK P.toPrms .layers true data lids = .ok lay) :
    (∀ r₁ ∈ lay, ∀ r₂ ∈ lay, ∀ k₁ k₂, k₁ < n → k₂ < n → k₁ ≠ k₂ →
      r₁.cid = lidOffset gids + 10 * (ind : Int) + (k₁ : Int) →
      r₂.cid = lidOffset gids + 10 * (ind : Int) + (k₂ : Int) →
      r₁.base ≤ r₂.base → r₂.base - r₁.base ≥ minSep) ∧
    ∀ r₁ ∈ lay, ∀ r₂ ∈ lay, (∃ i : Nat, gids[i]? = some g.cid ∧ lids[i]? = some r₁.cid) →
      (∃ i : Nat, gids[i]? = some g.cid ∧ lids[i]? = some r₂.cid) → r₁.cid ≠ r₂.cid →
      r₁.base ≤ r₂.base → r₂.base - r₁.base ≥ minSep := by
  -- report-time base = base of the component
  have hbase : ∀ r ∈ lay, ∀ k, k < n → r.cid = lidOffset gids + 10 * (ind : Int) + (k : Int) →
      calcBase K.pctl (compVals (groupHeights K data gids g.cid) ids k) P.lookback P.basePerc = .ok r.base :=
    fun r hr k hk hc => by
      rw [← S.selection hex k hk, ← hc]
      exact (metarize_row K.toMetK P.toPrms .layers true data lids S.kern.met lay hlay hr).2.base
  have index := fun r₁ hr₁ r₂ hr₂ k₁ k₂ hk₁ hk₂ hne hc₁ hc₂ =>
    ncompFromGmm_unmerged_separated K P S.kern _ _ minSep h0 n ids S.call S.two f hsel k₁ k₂ hk₁ hk₂ hne r₁.base r₂.base
      (hbase r₁ hr₁ k₁ hk₁ hc₁) (hbase r₂ hr₂ k₂ hk₂ hc₂)
  refine ⟨index, ?_⟩
  rintro r₁ h₁ r₂ h₂ ⟨i₁, hg₁, hl₁⟩ ⟨i₂, hg₂, hl₂⟩ hne
  obtain ⟨j₁, hj₁, ej₁⟩ := S.lids_of_group hsel i₁ r₁.cid hg₁ hl₁
  obtain ⟨j₂, hj₂, ej₂⟩ := S.lids_of_group hsel i₂ r₂.cid hg₂ hl₂
  exact index r₁ h₁ r₂ h₂ j₁ j₂ hj₁ hj₂ (fun e => hne (by rw [ej₁, ej₂, e])) ej₁ ej₂

end

theorem run_splitGroup {α} [DecidableEq α] (K : Kern) (P : PPrms α) (checked : List (Hit α))
    (hK : KernOK K P.basePerc) (c : Chunk α) (h : run K P checked = .ok c)
    (gids : List Int) (gr lay : Table) (hgi : c.gids = some gids) (hg : c.groups = some gr) (hl : c.layers = some lay)
    (ind : Nat) (g : Row) (hgr : gr[ind]? = some g) (n : Nat) (hnc : g.ncomp = some (n : Int)) (hn2 : 2 ≤ n)
    (minSep : Rat) (hms : minSepFor P.toPrms g.base = .ok minSep) :
    ∃ groups lids ncomps r₀ ids, c.lids = some lids ∧ g = { r₀ with ncomp := some (n : Int) } ∧
      metarize K.toMetK P.toPrms .layers true c.data lids = .ok lay ∧
      SplitGroup K P c.data gids groups lids ncomps ind r₀ n minSep ids := by
  obtain ⟨t, hp⟩ := run_parts K P checked c h
  obtain rfl : t.gids = gids := Option.some.inj (hp.gids_eq.symm.trans hgi)
  obtain rfl : setNcomp t.gr t.nc = gr := Option.some.inj (hp.groups_eq.symm.trans hg)
  obtain rfl : t.lay = lay := Option.some.inj (hp.layers_eq.symm.trans hl)
  obtain ⟨r₀, k, hr₀, hncI, rfl⟩ :=
    setNcomp_entry t.gr t.nc (layerIds_ncomps_length K P c.data t.gids t.gr t.lids t.nc hp.layer) ind g hgr
  obtain rfl : k = (n : Int) := Option.some.inj hnc
  obtain ⟨ids, hgmm⟩ := layerIds_gmm_call K P c.data t.gids t.gr t.lids t.nc hp.layer ind r₀ hr₀ n hncI minSep hms
  exact ⟨t.gr, t.lids, t.nc, r₀, ids, hp.lids_eq, rfl, hp.layers,
    { kern := hK, exact := hp.gidsExact hK, layers := hp.layer, row := hr₀, entry := hncI, two := hn2, sep := hms,
      call := hgmm
      nodup := (metarize_cids K.toMetK P.toPrms .groups false c.data t.gids hK.met t.gr hp.groups).nodup_iff.mpr
        (clusterIds_nodup t.gids) }⟩

end Ampy
