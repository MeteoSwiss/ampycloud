import Ampy.Model.Wmo
import Mathlib.Algebra.Order.Field.Rat
import Mathlib.Algebra.Order.Field.Basic
import Mathlib.Tactic.NormNum
import Mathlib.Tactic.SplitIfs
/-!
The model of `wmo.py` (C18; C01/C03/C04 reuse this): `roundHalfEven` is a nearest integer, monotone, the identity on
integers; strictly inside `(0, 100)` the okta is that rounding clipped to `1..7`; `n / M * 100` is strictly increasing
in `n`; `heightHundreds` is a floor.
-/
namespace Ampy

theorem floor_eq_of {x : Rat} {k : Int} (h0 : (k : Rat) ≤ x) (h1 : x < (k : Rat) + 1) :
    x.floor = k := by
  have a : k ≤ x.floor := Rat.le_floor_iff.mpr h0
  have b : x.floor < k + 1 := Rat.floor_lt_iff.mpr (by push_cast; exact h1)
  omega

theorem rhe_cases (x : Rat) :
    (roundHalfEven x = x.floor ∧ x - x.floor ≤ 1/2) ∨ (roundHalfEven x = x.floor + 1 ∧ 1/2 ≤ x - x.floor) := by
  unfold roundHalfEven
  simp only
  split_ifs with h1 h2 h3
  · exact .inl ⟨rfl, h1.le⟩
  · exact .inr ⟨rfl, h2.le⟩
  · exact .inl ⟨rfl, not_lt.mp h2⟩
  · exact .inr ⟨rfl, not_lt.mp h1⟩

theorem rhe_bounds (x : Rat) :
    ((roundHalfEven x : Int) : Rat) - 1/2 ≤ x ∧ x ≤ ((roundHalfEven x : Int) : Rat) + 1/2 := by
  have h1 : (x.floor : Rat) ≤ x := Rat.floor_le x
  have h2 : x < (x.floor : Rat) + 1 := by
    have := Rat.lt_floor_add_one x
    rwa [Int.cast_add, Int.cast_one] at this
  rcases rhe_cases x with ⟨e, h⟩ | ⟨e, h⟩
  · rw [e]
    exact ⟨(sub_le_self _ (by norm_num)).trans h1, sub_le_iff_le_add'.mp h⟩
  · rw [e, Int.cast_add, Int.cast_one, add_sub_assoc]
    exact ⟨(add_le_add_right (by norm_num) _).trans (le_sub_iff_add_le'.mp h),
      h2.le.trans (le_add_of_nonneg_right (by norm_num))⟩

theorem rhe_intCast (z : Int) : roundHalfEven (z : Rat) = z := by
  simp [roundHalfEven]

theorem rhe_mono {x y : Rat} (h : x ≤ y) : roundHalfEven x ≤ roundHalfEven y := by
  by_contra hlt
  -- a drop by one or more would put `y` at or below `x`: then they are equal, and so are the roundings
  have hc : ((roundHalfEven y : Int) : Rat) + 1 ≤ roundHalfEven x := by
    have := Rat.intCast_le_intCast.mpr (Int.not_le.mp hlt)
    rwa [Int.cast_add, Int.cast_one] at this
  have hyx : y ≤ x :=
    calc y ≤ (roundHalfEven y : Rat) + 1/2 := (rhe_bounds y).2
      _ = (roundHalfEven y : Rat) + 1 - 1/2 := by rw [add_sub_assoc]; norm_num
      _ ≤ (roundHalfEven x : Rat) - 1/2 := sub_le_sub_right hc _
      _ ≤ x := (rhe_bounds x).1
  exact hlt (le_of_eq (congrArg _ (le_antisymm h hyx)))

theorem le_rhe {x : Rat} (k : Int) (h : (k : Rat) ≤ x) : k ≤ roundHalfEven x :=
  rhe_intCast k ▸ rhe_mono h

theorem rhe_le {x : Rat} (k : Int) (h : x ≤ (k : Rat)) : roundHalfEven x ≤ k :=
  rhe_intCast k ▸ rhe_mono h

theorem oktaOfPerc_zero : oktaOfPerc 0 = 0 := by decide
theorem oktaOfPerc_hundred : oktaOfPerc 100 = 8 := by decide

/-- The special treatment of the two end bins in `perc2okta` is a clip of the rounded value to `1..7`. -/
theorem oktaOfPerc_eq_clip {p : Rat} (h0 : 0 < p) (h1 : p < 100) :
    oktaOfPerc p = max 1 (min 7 (roundHalfEven (p * 8 / 100))) := by
  have hx0 : 0 < p * 8 / 100 := div_pos (mul_pos h0 (by norm_num)) (by norm_num)
  have hx8 : p * 8 / 100 < 8 := by
    rw [div_lt_iff₀ (by norm_num)]
    exact (mul_lt_mul_of_pos_right h1 (by norm_num)).trans_eq (by norm_num)
  unfold oktaOfPerc
  rw [if_neg h0.ne', if_neg h1.ne, div_div_eq_mul_div]
  generalize p * 8 / 100 = x at hx0 hx8
  simp only
  -- numeral casts `((7 : Int) : Rat)` reduce to `(7 : Rat)` by `rfl`, so literal bounds are passed as they are
  split_ifs with c1 c7
  · -- 0 < x < 1: `⌈x⌉ = 1`, and the rounding is 0 or 1
    have := le_rhe 0 hx0.le
    have := rhe_le 1 c1.le
    have := (Rat.ceil_le_iff (y := 1)).mpr c1.le
    have := (Rat.lt_ceil_iff (y := 0)).mpr hx0
    omega
  · -- 7 < x < 8: `⌊x⌋ = 7`, and the rounding is 7 or 8
    have := le_rhe 7 c7.le
    have := rhe_le 8 hx8.le
    have := (Rat.le_floor_iff (x := 7)).mpr c7.le
    have := (Rat.floor_lt_iff (x := 8)).mpr hx8
    omega
  · have := le_rhe 1 (not_lt.mp c1)
    have := rhe_le 7 (not_lt.mp c7)
    omega

theorem oktaOfPerc_range {p : Rat} (h0 : 0 ≤ p) (h1 : p ≤ 100) : 0 ≤ oktaOfPerc p ∧ oktaOfPerc p ≤ 8 := by
  rcases h0.eq_or_lt with rfl | h0
  · decide
  rcases h1.eq_or_lt with rfl | h1
  · decide
  · rw [oktaOfPerc_eq_clip h0 h1]; omega

theorem oktaOfPerc_inner_range {p : Rat} (h0 : 0 < p) (h1 : p < 100) : 1 ≤ oktaOfPerc p ∧ oktaOfPerc p ≤ 7 := by
  rw [oktaOfPerc_eq_clip h0 h1]; omega

theorem oktaOfPerc_mono {p q : Rat} (hp : 0 ≤ p) (hpq : p ≤ q) (hq : q ≤ 100) :
    oktaOfPerc p ≤ oktaOfPerc q := by
  rcases hp.eq_or_lt with rfl | hp
  · exact (oktaOfPerc_range hpq hq).1
  rcases hq.eq_or_lt with rfl | hq
  · exact (oktaOfPerc_range hp.le hpq).2
  · rw [oktaOfPerc_eq_clip hp (hpq.trans_lt hq), oktaOfPerc_eq_clip (hp.trans_le hpq) hq]
    have := rhe_mono (div_le_div_of_nonneg_right (mul_le_mul_of_nonneg_right hpq (by norm_num : (0 : Rat) ≤ 8))
      (by norm_num : (0 : Rat) ≤ 100))
    omega

theorem oktaOfPerc_eq_zero_iff {p : Rat} (h0 : 0 ≤ p) (h1 : p ≤ 100) : oktaOfPerc p = 0 ↔ p = 0 := by
  refine ⟨fun h => ?_, fun h => h ▸ oktaOfPerc_zero⟩
  by_contra hp
  rcases h1.eq_or_lt with rfl | h1
  · exact absurd h (by decide)
  · have := oktaOfPerc_inner_range (h0.lt_of_ne' hp) h1
    omega

theorem oktaOfPerc_eq_eight_iff {p : Rat} (h0 : 0 ≤ p) (h1 : p ≤ 100) : oktaOfPerc p = 8 ↔ p = 100 := by
  refine ⟨fun h => ?_, fun h => h ▸ oktaOfPerc_hundred⟩
  by_contra hp
  rcases h0.eq_or_lt with rfl | h0
  · exact absurd h (by decide)
  · have := oktaOfPerc_inner_range h0 (h1.lt_of_ne hp)
    omega

theorem okta2code_table {o : Int} (h0 : 0 ≤ o) (h8 : o ≤ 8) :
    ∃ p, okta2code (.int o) = .ok (some p) ∧
      ((o = 0 ∧ p = "NCD") ∨ (1 ≤ o ∧ o ≤ 2 ∧ p = "FEW") ∨ (3 ≤ o ∧ o ≤ 4 ∧ p = "SCT") ∨
       (5 ≤ o ∧ o ≤ 7 ∧ p = "BKN") ∨ (o = 8 ∧ p = "OVC")) := by
  have : o = 0 ∨ o = 1 ∨ o = 2 ∨ o = 3 ∨ o = 4 ∨ o = 5 ∨ o = 6 ∨ o = 7 ∨ o = 8 := by omega
  rcases this with rfl | rfl | rfl | rfl | rfl | rfl | rfl | rfl | rfl <;> exact ⟨_, rfl, by decide⟩

theorem percNM_le_iff {n n' M : Nat} (hM : 0 < M) :
    (n : Rat) / (M : Rat) * 100 ≤ (n' : Rat) / (M : Rat) * 100 ↔ n ≤ n' := by
  have hM' : (0 : Rat) < (M : Rat) := by exact_mod_cast hM
  rw [mul_le_mul_iff_of_pos_right (by norm_num), div_le_div_iff_of_pos_right hM', Nat.cast_le]

theorem percNM_self {M : Nat} (hM : 0 < M) : (M : Rat) / (M : Rat) * 100 = 100 := by
  rw [div_self (by exact_mod_cast hM.ne'), one_mul]

theorem percNM_range {n M : Nat} (hM : 0 < M) (h : n ≤ M) :
    0 ≤ (n : Rat) / (M : Rat) * 100 ∧ (n : Rat) / (M : Rat) * 100 ≤ 100 := by
  have h0 := (percNM_le_iff (n := 0) hM).mpr (Nat.zero_le n)
  have h1 := (percNM_le_iff hM).mpr h
  rw [Nat.cast_zero, zero_div, zero_mul] at h0
  rw [percNM_self hM] at h1
  exact ⟨h0, h1⟩

theorem percNM_eq_iff {n n' M : Nat} (hM : 0 < M) :
    (n : Rat) / (M : Rat) * 100 = (n' : Rat) / (M : Rat) * 100 ↔ n = n' := by
  rw [le_antisymm_iff, percNM_le_iff hM, percNM_le_iff hM, ← le_antisymm_iff]

theorem percNM_eq_zero {n M : Nat} (hM : 0 < M) : (n : Rat) / (M : Rat) * 100 = 0 ↔ n = 0 := by
  rw [← percNM_eq_iff (n' := 0) hM, Nat.cast_zero, zero_div, zero_mul]

theorem percNM_eq_hundred {n M : Nat} (hM : 0 < M) : (n : Rat) / (M : Rat) * 100 = 100 ↔ n = M := by
  rw [← percNM_eq_iff (n' := M) hM, percNM_self hM]

theorem le_floor_div_iff {h c : Rat} (hc : 0 < c) {k : Int} : k ≤ (h / c).floor ↔ (k : Rat) * c ≤ h := by
  rw [Rat.le_floor_iff, le_div_iff₀ hc]

theorem floor_div_lt_iff {h c : Rat} (hc : 0 < c) {k : Int} : (h / c).floor < k ↔ h < (k : Rat) * c := by
  rw [Rat.floor_lt_iff, div_lt_iff₀ hc]

theorem floor_div_bounds (h : Rat) {c : Rat} (hc : 0 < c) :
    ((h / c).floor : Rat) * c ≤ h ∧ h < (((h / c).floor : Rat) + 1) * c := by
  have lt := (floor_div_lt_iff hc).mp (Int.lt_add_one_iff.mpr (Int.le_refl (h / c).floor))
  rw [Int.cast_add, Int.cast_one] at lt
  exact ⟨(le_floor_div_iff hc).mp (Int.le_refl _), lt⟩

theorem hh_low {h : Rat} (hl : h ≤ 10000) :
    ((heightHundreds h : Int) : Rat) * 100 ≤ h ∧ h < (((heightHundreds h : Int) : Rat) + 1) * 100 := by
  rw [heightHundreds, if_pos hl]
  exact floor_div_bounds h (by norm_num)

theorem hh_high {h : Rat} (hl : ¬ h ≤ 10000) :
    ((heightHundreds h : Int) : Rat) * 100 ≤ h ∧ h < (((heightHundreds h : Int) : Rat) + 10) * 100
      ∧ heightHundreds h % 10 = 0 := by
  rw [heightHundreds, if_neg hl, Int.cast_mul]
  -- `⌊h/1000⌋ · 10` hundreds are `⌊h/1000⌋` thousands
  have e : ∀ f : Rat, f * ((10 : Int) : Rat) * 100 = f * 1000 ∧ (f * ((10 : Int) : Rat) + 10) * 100 = (f + 1) * 1000 :=
    fun f => ⟨by rw [mul_assoc]; norm_num, by rw [add_mul, add_mul, mul_assoc]; norm_num⟩
  rw [(e _).1, (e _).2]
  exact ⟨(floor_div_bounds h (by norm_num)).1, (floor_div_bounds h (by norm_num)).2, by omega⟩

theorem hh_le (h : Rat) : ((heightHundreds h : Int) : Rat) * 100 ≤ h := by
  by_cases hl : h ≤ 10000
  · exact (hh_low hl).1
  · exact (hh_high hl).1

theorem hh_mono {a b : Rat} (hab : a ≤ b) : heightHundreds a ≤ heightHundreds b := by
  unfold heightHundreds
  split_ifs with ha hb hb
  · exact Rat.floor_monotone (div_le_div_of_nonneg_right hab (by norm_num))
  · -- a ≤ 10000 < b: at most 100 on the left, at least 100 on the right
    have h1 : (a / 100).floor < 101 := (floor_div_lt_iff (by norm_num)).mpr (ha.trans_lt (by norm_num))
    have h2 : 10 ≤ (b / 1000).floor :=
      (le_floor_div_iff (by norm_num)).mpr (le_of_eq_of_le (by norm_num) (not_le.mp hb).le)
    omega
  · exact absurd (hab.trans hb) ha
  · have := Rat.floor_monotone (div_le_div_of_nonneg_right hab (by norm_num : (0 : Rat) ≤ 1000))
    omega

theorem hh_range {h : Rat} (h0 : 0 ≤ h) (h1 : h < 100000) :
    0 ≤ heightHundreds h ∧ heightHundreds h < 1000 := by
  have lo : heightHundreds 0 ≤ heightHundreds h := hh_mono h0
  rw [show heightHundreds 0 = 0 by simp [heightHundreds, show Rat.floor 0 = 0 from Rat.floor_intCast 0]] at lo
  have hi : ((heightHundreds h : Int) : Rat) * 100 < 1000 * 100 := (hh_le h).trans_lt (h1.trans_eq (by norm_num))
  exact ⟨lo, Rat.intCast_lt_intCast.mp (lt_of_mul_lt_mul_right hi (by norm_num))⟩

theorem digitChar_isDigit {k : Nat} (hk : k < 10) : (Nat.digitChar k).isDigit = true := by
  rw [Nat.isDigit_digitChar, decide_eq_true hk]

theorem fmt03_three_digits {n : Int} (h0 : 0 ≤ n) (h1 : n < 1000) :
    ∃ d₀ d₁ d₂ : Char, d₀.isDigit ∧ d₁.isDigit ∧ d₂.isDigit ∧ fmt03 n = String.ofList [d₀, d₁, d₂] := by
  unfold fmt03 padNat3
  rw [if_pos h0, if_pos (by omega)]
  exact ⟨_, _, _, digitChar_isDigit (by omega), digitChar_isDigit (by omega),
    digitChar_isDigit (by omega), rfl⟩

end Ampy
