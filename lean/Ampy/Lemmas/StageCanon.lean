import Ampy.Lemmas.StageStep
import Ampy.Lemmas.TableColumns
import Ampy.Lemmas.CascadeHyps
import Ampy.Lemmas.Cascade
/-!
Behind C14.  `Canon`, `IsCanon`, `RefusalReason` are what the C14 theorems speak of; namespace `SC` (stage canon) holds
the proof.  The canonical states are `SC.T p i`; the machine is two tables on the stage, `SC.next` and `SC.verdict`, and
one theorem, `SC.step_T`: a call on `T p i` behaves as the tables say.  The rest is read off the tables.  `KernOK` is
spent on `metarize_cids` only: distinct ids to carry `isolated` over, no group means an empty groups table.
-/
namespace Ampy

structure Canon {α} [DecidableEq α] (K : Kern) (P : PPrms α) (c0 S1 S2 S3 : Chunk α) : Prop where
  fresh : c0.sids = none ∧ c0.gids = none ∧ c0.lids = none ∧ c0.slices = none ∧ c0.groups = none ∧ c0.layers = none
  h1 : findSlices K P c0 = .ok S1
  h2 : findGroups K P S1 = .ok S2
  h3 : findLayers K P S2 = .ok S3

def IsCanon {α} (c0 S1 S2 S3 c : Chunk α) : Prop := c = c0 ∨ c = S1 ∨ c = S2 ∨ c = S3

/-- Why a call may be refused: a prerequisite is missing, or it would discard the layering. -/
def RefusalReason {α} (c : Chunk α) : Op → Prop
  | .findSlices => False
  | .findGroups => c.slices = none ∨ c.layers.isSome = true
  | .findLayers => c.groups = none
  | .metarize w => idsOf c w = none ∨ (w = .groups ∧ c.layers.isSome = true)
  | .metarMsg w => tableOf c w = none

/-! No stage reads the bookkeeping columns `isolated` and `ncomp` that `find_groups` and `find_layers` write into the
table of the level below. -/

section Bookkeeping
variable {α : Type} [DecidableEq α]

/-- `metarize('slices')` keeps an existing table that differs from the fresh one in `isolated` only. -/
theorem carry_eq (o t : Table) (hlen : o.length = t.length) (hnd : (o.map (·.cid)).Nodup)
    (hrow : ∀ i (h1 : i < o.length) (h2 : i < t.length), { t[i] with isolated := o[i].isolated } = o[i]) :
    carryIsolated (some o) t = o := by
  apply List.ext_getElem
  · simp [carryIsolated, hlen]
  · intro i h1 h2
    have h3 : i < t.length := hlen ▸ h2
    have hf := find?_key_of_nodup (·.cid) o hnd i h2
    rw [← congrArg Row.cid (hrow i h2 h3)] at hf
    simp only [carryIsolated, List.getElem_map, hf]
    exact hrow i h2 h3

theorem closeInds_setIsolated (pad : Rat) (t : Table) (iso : List Bool) (i : Nat) :
    closeInds pad (setIsolated t iso) i = closeInds pad t i := by
  unfold closeInds
  simp only [getElem?_setIsolated, length_setIsolated]
  cases t[i]? with
  | none => rfl
  | some ri =>
    refine List.filter_congr fun j _ => ?_
    cases t[j]? <;> rfl

theorem bundlesOf_setIsolated (pad : Rat) (t : Table) (iso : List Bool) :
    bundlesOf pad (setIsolated t iso) = bundlesOf pad t := by
  unfold bundlesOf
  simp only [closeInds_setIsolated, length_setIsolated]

omit [DecidableEq α] in
theorem groupBundle_setIsolated (K : Kern) (P : PPrms α) (data : List (Hit α)) (sids : List Int) (t : Table)
    (iso : List Bool) (b : List Nat) (g : List (Option Int)) :
    groupBundle K P data sids (setIsolated t iso) b g = groupBundle K P data sids t b g := by
  -- the slices table is read through the ids and the fluffiness of the bundle only
  have h1 : bundleMask sids (setIsolated t iso) b = bundleMask sids t b := by
    simp only [bundleMask, getElem?_setIsolated, Option.map_map]
    rfl
  have h2 : bundleScale P (setIsolated t iso) b = bundleScale P t b := by
    simp only [bundleScale, getElem?_setIsolated, Option.map_map]
    rfl
  rw [groupBundle_eq, groupBundle_eq, h1, h2]

theorem groupIds_setIsolated (K : Kern) (P : PPrms α) (data : List (Hit α)) (sids : List Int) (t : Table)
    (iso : List Bool) :
    groupIds K P data sids (setIsolated t iso) = groupIds K P data sids t := by
  simp only [groupIds_eq, bundlesOf_setIsolated, groupBundle_setIsolated]

theorem layerIds_setNcomp (K : Kern) (P : PPrms α) (data : List (Hit α)) (gids : List Int) (t : Table)
    (nc : List Int) :
    layerIds K P data gids (setNcomp t nc) = layerIds K P data gids t := by
  -- a step of the loop reads the group's row through columns other than `ncomp`
  have : layerStep K P data gids (setNcomp t nc) = layerStep K P data gids t := by
    funext st ind
    unfold layerStep
    rw [getElem?_setNcomp]
    cases t[ind]? <;> rfl
  rw [layerIds_eq, layerIds_eq, length_setNcomp, this]

end Bookkeeping

namespace SC

/-- Everything the canonical run computes (`iso`, `nc`: what is written into the `isolated` and `ncomp` columns). -/
structure Pt (α : Type) where
  data : List (Hit α)
  flag : Bool
  sids : List Int
  sl : Table
  gids : List Int
  iso : List Bool
  gr : Table
  lids : List Int
  nc : List Int
  lay : Table

inductive Stg where
  | fresh | sliced | grouped | layered
  deriving DecidableEq

def Stg.toNat : Stg → Nat
  | .fresh => 0 | .sliced => 1 | .grouped => 2 | .layered => 3

instance : LE Stg := ⟨fun a b => a.toNat ≤ b.toNat⟩
instance (a b : Stg) : Decidable (a ≤ b) := inferInstanceAs (Decidable (a.toNat ≤ b.toNat))

def T {α} (p : Pt α) : Stg → Chunk α
  | .fresh => { data := p.data, flag := p.flag }
  | .sliced => { data := p.data, flag := p.flag, sids := some p.sids, slices := some p.sl }
  | .grouped =>
    { data := p.data, flag := p.flag, sids := some p.sids, gids := some p.gids,
      slices := some (setIsolated p.sl p.iso), groups := some p.gr }
  | .layered =>
    { data := p.data, flag := p.flag, sids := some p.sids, gids := some p.gids, lids := some p.lids,
      slices := some (setIsolated p.sl p.iso), groups := some (setNcomp p.gr p.nc), layers := some p.lay }

theorem isCanon_iff {α} {p : Pt α} (c : Chunk α) :
    IsCanon (T p .fresh) (T p .sliced) (T p .grouped) (T p .layered) c ↔ ∃ i, c = T p i :=
  ⟨fun h => by rcases h with h | h | h | h <;> exact ⟨_, h⟩,
   fun ⟨i, h⟩ => match i with
    | .fresh => .inl h | .sliced => .inr (.inl h) | .grouped => .inr (.inr (.inl h)) | .layered => .inr (.inr (.inr h))⟩

theorem Stg.le_trans {i j k : Stg} (h1 : i ≤ j) (h2 : j ≤ k) : i ≤ k := Nat.le_trans h1 h2

theorem T_tables {α} (p : Pt α) (i : Stg) :
    (T p i).slices.isSome = decide (.sliced ≤ i) ∧ (T p i).groups.isSome = decide (.grouped ≤ i) ∧
    (T p i).layers.isSome = decide (.layered ≤ i) := by
  match i with
  | .fresh | .sliced | .grouped | .layered => exact ⟨rfl, rfl, rfl⟩

theorem T_tables_mono {α} (p : Pt α) {i j : Stg} (hij : i ≤ j) :
    ((T p i).slices.isSome = true → (T p j).slices.isSome = true) ∧
    ((T p i).groups.isSome = true → (T p j).groups.isSome = true) ∧
    ((T p i).layers.isSome = true → (T p j).layers.isSome = true) := by
  obtain ⟨a1, a2, a3⟩ := T_tables p i
  obtain ⟨b1, b2, b3⟩ := T_tables p j
  rw [a1, a2, a3, b1, b2, b3]
  simp only [decide_eq_true_eq]
  exact ⟨fun h => Stg.le_trans h hij, fun h => Stg.le_trans h hij, fun h => Stg.le_trans h hij⟩

/-- What the three stages compute from `p.data`; the last three fields need `KernOK`. -/
structure Full {α} [DecidableEq α] (K : Kern) (P : PPrms α) (p : Pt α) : Prop where
  slice_ids : sliceIds K P p.data = .ok p.sids
  slice_tab : ∀ b, metarize K.toMetK P.toPrms .slices b p.data p.sids = .ok p.sl
  group_ids : groupIds K P p.data p.sids p.sl = .ok (p.gids, p.iso)
  group_tab : metarize K.toMetK P.toPrms .groups false p.data p.gids = .ok p.gr
  layer_ids : layerIds K P p.data p.gids p.gr = .ok (p.lids, p.nc)
  layer_tab : ∀ b, metarize K.toMetK P.toPrms .layers b p.data p.lids = .ok p.lay
  carry_fresh : carryIsolated (some p.sl) p.sl = p.sl
  carry_grouped : carryIsolated (some (setIsolated p.sl p.iso)) p.sl = setIsolated p.sl p.iso
  regroup_layered : (∃ why, metarize K.toMetK P.toPrms .groups true p.data p.gids = .error (.ampy why)) ∨
    (metarize K.toMetK P.toPrms .groups true p.data p.gids = .ok p.gr ∧ setNcomp p.gr p.nc = p.gr)

def next : Stg → Op → Stg
  | .fresh, .findSlices => .sliced
  | .sliced, .findGroups => .grouped
  | .grouped, .findLayers => .layered
  | i, _ => i

/-- The stage from which a level exists. -/
def lvl : Which → Stg
  | .slices => .sliced
  | .groups => .grouped
  | .layers => .layered

/-- How a call ends: `done`, `AmpycloudError`, either of the two, or a message. -/
inductive Verdict where
  | accept | refuse | either | read

/-- What the caller sees.  `either`: `metarize('groups')` after layering is refused unless there is no group. -/
def verdict : Stg → Op → Verdict
  | _, .findSlices => .accept
  | i, .findGroups => if i = .sliced ∨ i = .grouped then .accept else .refuse
  | i, .findLayers => if .grouped ≤ i then .accept else .refuse
  | .layered, .metarize .groups => .either
  | i, .metarize w => if lvl w ≤ i then .accept else .refuse
  | i, .metarMsg w => if lvl w ≤ i then .read else .refuse

def Verdict.holds {α} (c : Chunk α) (op : Op) (o : Out) : Verdict → Prop
  | .accept => o = .done
  | .refuse => o = .ampyError ∧ RefusalReason c op
  | .either => o = .done ∨ o = .ampyError ∧ RefusalReason c op
  | .read => ∃ s, o = .msg s

theorem of_holds {α} {v : Verdict} {c : Chunk α} {op : Op} {o : Out} (h : v.holds c op o) :
    (o = .ampyError → RefusalReason c op) ∧ ∀ cls, o ≠ .crash cls := by
  cases v with
  | accept => cases h; exact ⟨fun e => (nomatch e), fun _ e => (nomatch e)⟩
  | refuse => cases h.1; exact ⟨fun _ => h.2, fun _ e => (nomatch e)⟩
  | either =>
    rcases h with rfl | ⟨rfl, hr⟩
    · exact ⟨fun e => (nomatch e), fun _ e => (nomatch e)⟩
    · exact ⟨fun _ => hr, fun _ e => (nomatch e)⟩
  | read => obtain ⟨s, rfl⟩ := h; exact ⟨fun e => (nomatch e), fun _ e => (nomatch e)⟩

section machine
variable {α : Type} [DecidableEq α] {K : Kern} {P : PPrms α} {p : Pt α}

theorem cell {c c' : Chunk α} {op : Op} {o : Out} {v : Verdict} (e : step K P c op = (c', o))
    (hv : v.holds c op o) : (step K P c op).1 = c' ∧ v.holds c op (step K P c op).2 := by
  rw [e]; exact ⟨rfl, hv⟩

theorem step_T (h : Full K P p) (i : Stg) (op : Op) :
    (step K P (T p i) op).1 = T p (next i op) ∧ (verdict i op).holds (T p i) op (step K P (T p i) op).2 := by
  cases op with
  | findSlices =>
    match i with
    | .fresh => exact cell (step_findSlices (c := T p .fresh) h.slice_ids (h.slice_tab _)) rfl
    | .sliced => exact cell (by rw [step_findSlices (c := T p .sliced) h.slice_ids (h.slice_tab _)]; simp only [T, next, h.carry_fresh]) rfl
    | .grouped => exact cell (by rw [step_findSlices (c := T p .grouped) h.slice_ids (h.slice_tab _)]; simp only [T, next, h.carry_grouped]) rfl
    | .layered => exact cell (by rw [step_findSlices (c := T p .layered) h.slice_ids (h.slice_tab _)]; simp only [T, next, h.carry_grouped]) rfl
  | findGroups =>
    match i with
    | .fresh => exact cell (step_findGroups_refused (.inl rfl)) ⟨rfl, .inl rfl⟩
    | .sliced => exact cell (step_findGroups (c := T p .sliced) rfl rfl rfl h.group_ids h.group_tab) rfl
    | .grouped =>
      exact cell (by rw [step_findGroups (c := T p .grouped) rfl rfl rfl
        ((groupIds_setIsolated ..).trans h.group_ids) h.group_tab]; simp only [T, next, setIsolated_idem]) rfl
    | .layered => exact cell (step_findGroups_refused (.inr rfl)) ⟨rfl, .inr rfl⟩
  | findLayers =>
    match i with
    | .fresh | .sliced => exact cell (step_findLayers_refused rfl) ⟨rfl, rfl⟩
    | .grouped => exact cell (step_findLayers (c := T p .grouped) rfl rfl h.layer_ids (h.layer_tab _)) rfl
    | .layered =>
      exact cell (by rw [step_findLayers (c := T p .layered) rfl rfl
        ((layerIds_setNcomp ..).trans h.layer_ids) (h.layer_tab _)]; simp only [T, next, setNcomp_idem]) rfl
  | metarize w =>
    cases w with
    | slices =>
      match i with
      | .fresh => exact cell (step_metarize_refused (.inl rfl)) ⟨rfl, .inl rfl⟩
      | .sliced =>
        exact cell (by rw [step_metarize (c := T p .sliced) (w := .slices) rfl (h.slice_tab _)]; simp only [T, next, h.carry_fresh]) rfl
      | .grouped =>
        exact cell (by rw [step_metarize (c := T p .grouped) (w := .slices) rfl (h.slice_tab _)]; simp only [T, next, h.carry_grouped]) rfl
      | .layered =>
        exact cell (by rw [step_metarize (c := T p .layered) (w := .slices) rfl (h.slice_tab _)]; simp only [T, next, h.carry_grouped]) rfl
    | groups =>
      match i with
      | .fresh | .sliced => exact cell (step_metarize_refused (.inl rfl)) ⟨rfl, .inl rfl⟩
      | .grouped => exact cell (step_metarize (c := T p .grouped) (w := .groups) rfl h.group_tab) rfl
      | .layered =>
        rcases h.regroup_layered with ⟨why, e⟩ | ⟨e, e2⟩
        · exact cell (step_metarize_refused (.inr ⟨_, why, rfl, e⟩)) (.inr ⟨rfl, .inr ⟨rfl, rfl⟩⟩)
        · exact cell (by rw [step_metarize (c := T p .layered) (w := .groups) rfl e]; simp only [T, next, e2]) (.inl rfl)
    | layers =>
      match i with
      | .fresh | .sliced | .grouped => exact cell (step_metarize_refused (.inl rfl)) ⟨rfl, .inl rfl⟩
      | .layered => exact cell (step_metarize (c := T p .layered) (w := .layers) rfl (h.layer_tab _)) rfl
  | metarMsg w =>
    rw [step_metarMsg]
    cases w with
    | slices =>
      match i with
      | .fresh => exact ⟨rfl, rfl, rfl⟩
      | .sliced | .grouped | .layered => exact ⟨rfl, _, rfl⟩
    | groups =>
      match i with
      | .fresh | .sliced => exact ⟨rfl, rfl, rfl⟩
      | .grouped | .layered => exact ⟨rfl, _, rfl⟩
    | layers =>
      match i with
      | .fresh | .sliced | .grouped => exact ⟨rfl, rfl, rfl⟩
      | .layered => exact ⟨rfl, _, rfl⟩

theorem accept_next (i : Stg) (op : Op) (hn : next i op ≠ i) :
    verdict (next i op) op = .accept ∧ next (next i op) op = next i op := by
  unfold next at hn ⊢
  split at hn
  · exact ⟨rfl, rfl⟩
  · exact ⟨rfl, rfl⟩
  · exact ⟨rfl, rfl⟩
  · exact absurd rfl hn

theorem le_next (i : Stg) (op : Op) : i ≤ next i op := by
  unfold next
  split
  · exact Nat.le_succ 0
  · exact Nat.le_succ 1
  · exact Nat.le_succ 2
  · exact Nat.le_refl _

theorem step_T_idem (h : Full K P p) {i : Stg} {op : Op} (hd : (step K P (T p i) op).2 = .done) :
    step K P (T p (next i op)) op = (T p (next i op), .done) := by
  by_cases hn : next i op = i
  · -- the call stayed where it was: repeating it is the same call
    rw [hn]
    exact Prod.ext ((step_T h i op).1.trans (congrArg _ hn)) hd
  · -- the call completed a stage: the table says it is accepted there again
    obtain ⟨hv, hn'⟩ := accept_next i op hn
    obtain ⟨h3, h4⟩ := step_T h (next i op) op
    rw [hv] at h4
    exact Prod.ext (h3.trans (congrArg _ hn')) h4

theorem runOps_T (h : Full K P p) (i : Stg) (ops : List Op) : ∃ j, i ≤ j ∧ (runOps K P (T p i) ops).1 = T p j :=
  (runOps_ind (K := K) (P := P) (I := fun c => ∃ j, i ≤ j ∧ c = T p j) (O := fun _ => True)
    (fun _ op ⟨j, hj, e⟩ => ⟨⟨next j op, Stg.le_trans hj (le_next j op), e ▸ (step_T h j op).1⟩, trivial⟩)
    (T p i) ⟨i, Nat.le_refl _, rfl⟩ ops).1

theorem full_of_canon (hK : KernOK K P.basePerc) {c0 S1 S2 S3 : Chunk α} (hC : Canon K P c0 S1 S2 S3) :
    ∃ p : Pt α, Full K P p ∧ c0 = T p .fresh ∧ S1 = T p .sliced ∧ S2 = T p .grouped ∧ S3 = T p .layered := by
  obtain ⟨hf, h1, h2, h3⟩ := hC
  obtain ⟨data, flag, sids, gids, lids, slices, groups, layers⟩ := c0
  obtain ⟨rfl, rfl, rfl, rfl, rfl, rfl⟩ := hf
  rw [findSlices_eq] at h1
  obtain ⟨sids, hs, h1⟩ := bind_eq_ok.mp h1
  obtain ⟨sl, hsl, h1⟩ := bind_eq_ok.mp h1
  cases h1
  rw [findGroups_eq K P _ _ _ rfl rfl rfl] at h2
  obtain ⟨⟨gids, iso⟩, hg, h2⟩ := bind_eq_ok.mp h2
  obtain ⟨gr, hgr, h2⟩ := bind_eq_ok.mp h2
  cases h2
  rw [findLayers_eq K P _ _ _ rfl rfl] at h3
  obtain ⟨⟨lids, nc⟩, hl, h3⟩ := bind_eq_ok.mp h3
  obtain ⟨lay, hlay, h3⟩ := bind_eq_ok.mp h3
  cases h3
  have hnd : (sl.map (·.cid)).Nodup :=
    (metarize_cids K.toMetK P.toPrms .slices false data sids hK.met sl hsl).nodup_iff.mpr (clusterIds_nodup sids)
  refine ⟨{ data := data, flag := flag, sids := sids, sl := sl, gids := gids, iso := iso, gr := gr, lids := lids,
            nc := nc, lay := lay }, ?_, rfl, rfl, rfl, rfl⟩
  exact { slice_ids := hs, slice_tab := fun b => (metarize_of_ne_groups _ _ (by decide) b _ _ _).trans hsl,
          group_ids := hg, group_tab := hgr, layer_ids := hl,
          layer_tab := fun b => (metarize_of_ne_groups _ _ (by decide) b _ _ _).trans hlay,
          carry_fresh := carry_eq sl sl rfl hnd fun _ _ _ => rfl,
          carry_grouped := carry_eq _ sl (length_setIsolated _ _) (by rw [setIsolated_map_cid]; exact hnd)
            fun i _ _ => by simp only [setIsolated_eq, List.getElem_mapIdx],
          regroup_layered := (metarize_groups_layered _ _ hK.met _ _ _ hgr).imp_right fun ⟨e, hnil⟩ =>
            ⟨e, by rw [hnil]; rfl⟩ }

end machine

end SC

end Ampy
