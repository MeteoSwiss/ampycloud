import Ampy.Lemmas.Layers
/-!
What `find_layers` left behind, read off the decisions of its loop: the range of `ncomp` (behind C20), and, for a
group split by a call of `ncomp_from_gmm` (`SplitGroup`), that its rows carry the ids the call returned and its layers
are reported with the base heights of the mixture components (behind the second clause of C06).
-/
namespace Ampy

theorem layerIds_ncomp_range {α} [DecidableEq α] (K : Kern) (P : PPrms α) (hK : KernOK K P.basePerc)
    (data : List (Hit α)) (gids : List Int) (groups : Table) (lids ncomps : List Int)
    (h : layerIds K P data gids groups = .ok (lids, ncomps)) :
    ∀ k ∈ ncomps, k = -1 ∨ k = 1 ∨ k = 2 ∨ k = 3 := by
  intro k hk
  obtain ⟨g, _, o, ho, rfl⟩ := forall₂_mem_right ((layerIds_decisions K P data gids groups).of_ok h) k hk
  cases o with
  | none => exact .inl rfl
  | some r =>
    obtain ⟨h30, minSep, _, hgmm⟩ := (layerDecide_sat K P data gids g).of_ok ho r rfl
    obtain ⟨_, _, h1, h2, _⟩ := ncompFromGmm_post K P hK _ _ _ r.1 r.2 hgmm
    have := (groupHeights_gmm_domain h30).2
    simp only [ncompOf]
    omega

theorem filterMap_filter_of_none {β γ} (p : β → Bool) (F : β → Option γ) (l : List β)
    (h : ∀ x ∈ l, p x = false → F x = none) : l.filterMap F = (l.filter p).filterMap F := by
  rw [List.filterMap_filter]
  refine List.filterMap_congr fun x hx => ?_
  cases hp : p x
  · exact h x hx hp
  · rfl

/-- `F` is `hgt` on the positions labelled `k`: select by label before or after dropping undefined heights. -/
theorem filterMap_zip_sel {β} (hgt F : Nat → Option β) (k : Nat) : ∀ (pos ids : List Nat),
    pos.length = ids.length → (∀ i ∈ pos, (hgt i).isSome = true) →
    (∀ p ∈ pos.zip ids, F p.1 = if p.2 = k then hgt p.1 else none) →
    pos.filterMap F = ((pos.filterMap hgt).zip ids).filterMap fun (v, l) => if l = k then some v else none
  | [], _, _, _, _ => rfl
  | _ :: _, [], hlen, _, _ => nomatch hlen
  | a :: t, b :: u, hlen, hsome, hF => by
    obtain ⟨y, hy⟩ := Option.isSome_iff_exists.mp (hsome a List.mem_cons_self)
    have h0 := hF (a, b) List.mem_cons_self
    have iht := filterMap_zip_sel hgt F k t u (Nat.succ.inj hlen) (fun i hi => hsome i (List.mem_cons_of_mem _ hi))
      (fun p hp => hF p (List.mem_cons_of_mem _ hp))
    rw [List.filterMap_cons, List.filterMap_cons, hy, h0, hy, List.zip_cons_cons, List.filterMap_cons, iht]

theorem selectSorted_noexcl {α} [DecidableEq α] (K : MetK) (P : Prms α) (hex : P.exclude = [])
    (data : List (Hit α)) (lids : List Int) (L : Int) :
    selectSorted K data (baseMask P data lids L) =
      (K.dtOrder (data.map (·.dt))).filterMap fun i =>
        if lids[i]? = some L then (data[i]?).bind (·.height) else none := by
  unfold selectSorted baseMask
  simp only [hex, ne_eq, not_true_eq_false, if_false]
  apply List.filterMap_congr
  intro i _
  simp only [getD_true_iff, map_beq_getElem?, ← List.getElem?_eq_some_iff]

theorem lid_row_group {α} [DecidableEq α] (K : Kern) (P : PPrms α) (hK : KernOK K P.basePerc)
    (data : List (Hit α)) (gids : List Int) (groups : Table) (hg : IdsExact data gids)
    (lids ncomps : List Int) (h : layerIds K P data gids groups = .ok (lids, ncomps))
    (ind : Nat) (g : Row) (hgi : groups[ind]? = some g) (k : Nat) (hk : k < 10) (i : Nat)
    (hi : lids[i]? = some (lidOffset gids + 10 * (ind : Int) + (k : Int))) : gids[i]? = some g.cid := by
  obtain ⟨l0, hI, rfl⟩ := layerIds_linv K P data hK gids groups hg lids ncomps h
  obtain ⟨l, c, _, hc, _⟩ := (fillIds_getElem? l0 gids i _).mp hi
  have hlt := lidOffset_gt gids c (List.mem_of_getElem? hc)
  rcases fillIds_cases hI i _ c hi hc with e | ⟨ind', c', gr, a, b, _, d, e⟩
  · omega
  · obtain rfl : ind' = ind := by omega
    rw [a] at hgi
    cases hgi
    rw [hc, b]

/-- Group number `ind` (row `g`) of the table `find_layers` worked on was split in `n ≥ 2` layers by the call `call`. -/
structure SplitGroup {α} [DecidableEq α] (K : Kern) (P : PPrms α) (data : List (Hit α)) (gids : List Int)
    (groups : Table) (lids ncomps : List Int) (ind : Nat) (g : Row) (n : Nat) (minSep : Rat) (ids : List Nat) :
    Prop where
  kern : KernOK K P.basePerc
  exact : IdsExact data gids
  nodup : (groups.map (·.cid)).Nodup
  layers : layerIds K P data gids groups = .ok (lids, ncomps)
  row : groups[ind]? = some g
  entry : ncomps[ind]? = some (n : Int)
  two : 2 ≤ n
  sep : minSepFor P.toPrms g.base = .ok minSep
  call : ncompFromGmm K P (groupHeights K data gids g.cid)
    (min ((groupHeights K data gids g.cid).eraseDups).length 3) minSep = .ok (n, ids)

section
variable {α} [DecidableEq α] {K : Kern} {P : PPrms α} {data : List (Hit α)} {gids : List Int} {groups : Table}
  {lids ncomps : List Int} {ind : Nat} {g : Row} {n : Nat} {minSep : Rat} {ids : List Nat}

theorem SplitGroup.decision (S : SplitGroup K P data gids groups lids ncomps ind g n minSep ids) :
    layerDecide K P data gids g = .ok (some (n, ids)) := by
  obtain ⟨o, ho, hc⟩ := forall₂_getElem? ((layerIds_decisions K P data gids groups).of_ok S.layers) S.row S.entry
  obtain ⟨ids', rfl⟩ := ncompOf_natCast hc
  obtain ⟨_, minSep', hms', hr⟩ := (layerDecide_sat K P data gids g).of_ok ho _ rfl
  obtain rfl : minSep' = minSep := Except.ok.inj (hms'.symm.trans S.sep)
  obtain rfl : ids' = ids := (Prod.mk.inj (Except.ok.inj (hr.symm.trans S.call))).2
  exact ho

theorem SplitGroup.cid_nonneg (S : SplitGroup K P data gids groups lids ncomps ind g n minSep ids) : 0 ≤ g.cid :=
  grp_cid_nonneg K S.exact _ (groupHeights_gmm_domain ((layerDecide_sat K P data gids g).of_ok S.decision _ rfl).1).1

theorem SplitGroup.rows (S : SplitGroup K P data gids groups lids ncomps ind g n minSep ids) (j : Nat)
    (hj : j < (grpPos K data gids g.cid).length) (hj2 : j < ids.length) :
    lids[(grpPos K data gids g.cid)[j]]? = some (lidOffset gids + 10 * (ind : Int) + (ids[j] : Int)) := by
  obtain ⟨l0, ⟨_, hW⟩, rfl⟩ := layerIds_written K P data S.kern gids groups S.exact S.nodup lids ncomps S.layers
  have hw := (hW ind g _ (List.getElem?_eq_some_iff.mp S.row).1 S.row S.decision).split _ (if_pos S.two)
  exact (fillIds_getElem? l0 gids _ _).mpr ⟨_, g.cid, hw j hj hj2,
    ((mem_grpPos K data gids _ _).mp (List.getElem_mem hj)).2, rfl⟩

theorem SplitGroup.lid_iff (S : SplitGroup K P data gids groups lids ncomps ind g n minSep ids) {p l : Nat}
    (hp : (p, l) ∈ (grpPos K data gids g.cid).zip ids) (k : Nat) :
    lids[p]? = some (lidOffset gids + 10 * (ind : Int) + (k : Int)) ↔ l = k := by
  obtain ⟨j, hj⟩ := List.mem_iff_getElem?.mp hp
  obtain ⟨h1, h2⟩ := List.getElem?_zip_eq_some.mp hj
  obtain ⟨hj1, rfl⟩ := List.getElem?_eq_some_iff.mp h1
  obtain ⟨hj2, rfl⟩ := List.getElem?_eq_some_iff.mp h2
  rw [S.rows j hj1 hj2, Option.some.injEq]
  omega

/-- Report-time base = decision-time base: without exclusions, `calc_base_height` gets for layer `off + 10·ind + k` the
values of mixture component `k`, in the order `ncomp_from_gmm` saw them. -/
theorem SplitGroup.selection (S : SplitGroup K P data gids groups lids ncomps ind g n minSep ids)
    (hex : P.exclude = []) (k : Nat) (hk : k < n) :
    selectSorted K.toMetK data (baseMask P.toPrms data lids (lidOffset gids + 10 * (ind : Int) + (k : Int))) =
      compVals (groupHeights K data gids g.cid) ids k := by
  have hlen := groupHeights_length K S.exact _ S.cid_nonneg
  obtain ⟨hil, _, _, hle, _⟩ := ncompFromGmm_post K P S.kern _ _ _ _ _ S.call
  -- only rows of the group carry the layer id; on them, selecting by layer id is selecting by component
  rw [selectSorted_noexcl K.toMetK P.toPrms hex, filterMap_filter_of_none (fun i => gids[i]? == some g.cid),
    groupHeights_eq]
  · apply filterMap_zip_sel (fun i => (data[i]?).bind (·.height)) _ k (grpPos K data gids g.cid)
    · rw [← hlen, hil]
    · intro i hi
      obtain ⟨y, hy⟩ := S.exact.height_of_nonneg i g.cid ((mem_grpPos K data gids g.cid i).mp hi).2 S.cid_nonneg
      rw [hy]
      rfl
    · rintro ⟨p, l⟩ hp
      simp only [S.lid_iff hp k]
  · intro i _ hp
    rw [if_neg]
    intro hi
    have := lid_row_group K P S.kern data gids groups S.exact lids ncomps S.layers ind g S.row k (by omega) i hi
    rw [this] at hp
    simp at hp

end

end Ampy
