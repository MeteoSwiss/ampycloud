import Ampy.Lemmas.Cascade
/-!
Behind C16: the cascade is equivariant under injective renaming of the ceilometers.  Names are read in three places
only (`ceilos`, `hitCount`, the exclusion test of `baseMask`): there injectivity is used.  Every other function sees the
hits through `dt`, `height` and `type`, which `Hit.mapCeilo` leaves alone: after `List.map_map` the sides agree by `rfl`.
-/
namespace Ampy

def Hit.mapCeilo {α β} (f : α → β) (h : Hit α) : Hit β := ⟨f h.ceilo, h.dt, h.height, h.type⟩

def Prms.mapCeilo {α β} (f : α → β) (P : Prms α) : Prms β :=
  { msa := P.msa, msaBuf := P.msaBuf, t0 := P.t0, t8 := P.t8, basePerc := P.basePerc, lookback := P.lookback,
    exclude := P.exclude.map f, minSepVals := P.minSepVals, minSepLims := P.minSepLims, sliceThr := P.sliceThr,
    sliceDtScale := P.sliceDtScale, padPerc := P.padPerc, grpDtScale := P.grpDtScale, hScaleLo := P.hScaleLo,
    hScaleHi := P.hScaleHi, minOktaToSplit := P.minOktaToSplit, gmmScores := P.gmmScores, gmmMode := P.gmmMode,
    gmmMinProb := P.gmmMinProb, gmmGain := P.gmmGain, gmmRescale := P.gmmRescale }

def PPrms.mapCeilo {α β} (f : α → β) (P : PPrms α) : PPrms β :=
  { toPrms := P.toPrms.mapCeilo f, sliceHScale := P.sliceHScale }

def Chunk.mapCeilo {α β} (f : α → β) (c : Chunk α) : Chunk β :=
  { data := c.data.map (Hit.mapCeilo f), flag := c.flag, sids := c.sids, gids := c.gids, lids := c.lids,
    slices := c.slices, groups := c.groups, layers := c.layers }

section
variable {α β : Type}

theorem Chunk.mapCeilo_data (f : α → β) (c : Chunk α) :
    (Chunk.mapCeilo f c).data = c.data.map (Hit.mapCeilo f) := rfl

theorem PPrms.mapCeilo_toPrms (f : α → β) (P : PPrms α) :
    (PPrms.mapCeilo f P).toPrms = P.toPrms.mapCeilo f := rfl

theorem map_dt_mapCeilo (f : α → β) (data : List (Hit α)) :
    (data.map (Hit.mapCeilo f)).map (·.dt) = data.map (·.dt) := by
  rw [List.map_map]; rfl

theorem map_height_mapCeilo (f : α → β) (data : List (Hit α)) :
    (data.map (Hit.mapCeilo f)).map (·.height) = data.map (·.height) := by
  rw [List.map_map]; rfl

theorem ncompFromGmm_mapCeilo (f : α → β) (K : Kern) (P : PPrms α) (vals : List Rat) (n : Nat) (s : Rat) :
    ncompFromGmm K (P.mapCeilo f) vals n s = ncompFromGmm K P vals n s := by
  rw [ncompFromGmm_eq, ncompFromGmm_eq]
  rfl

variable (f : α → β) (K : Kern) (P : PPrms α) (data : List (Hit α))

theorem getElem?_height_mapCeilo (i : Nat) :
    ((data.map (Hit.mapCeilo f))[i]?).bind (·.height) = (data[i]?).bind (·.height) := by
  rw [List.getElem?_map]; cases data[i]? <;> rfl

theorem members_map (g : Hit α → Hit β) (ids : List Int) (cid : Int) :
    members (data.map g) ids cid = (members data ids cid).map g := by
  unfold members
  rw [List.zip_map_left, List.filterMap_map, List.map_filterMap]
  congr 1
  funext ⟨h, i⟩
  by_cases hi : i = cid <;> simp [hi]

theorem selectSorted_mapCeilo (M : MetK) (mask : List Bool) :
    selectSorted M (data.map (Hit.mapCeilo f)) mask = selectSorted M data mask := by
  unfold selectSorted
  rw [map_dt_mapCeilo]
  simp only [getElem?_height_mapCeilo]

theorem baseForMask_mapCeilo (M : MetK) (Q : Prms α) (mask : List Bool) :
    baseForMask M (Q.mapCeilo f) (data.map (Hit.mapCeilo f)) mask = baseForMask M Q data mask := by
  unfold baseForMask
  rw [selectSorted_mapCeilo]; rfl

theorem cropRows_mapCeilo (lim : Rat) :
    cropRows lim (data.map (Hit.mapCeilo f)) = (cropRows lim data).map (Hit.mapCeilo f) := by
  unfold cropRows
  rw [List.filterMap_map, List.map_filterMap]
  congr 1
  funext h
  show (if aboveLim lim h then _ else _) = _
  by_cases h1 : aboveLim lim h = true <;> by_cases h2 : h.type ≤ 1 <;>
    simp [h1, h2, Hit.mapCeilo]

theorem crop_mapCeilo (Q : Prms α) :
    crop (Q.mapCeilo f) (data.map (Hit.mapCeilo f)) = ((crop Q data).1.map (Hit.mapCeilo f), (crop Q data).2) := by
  unfold crop
  show (match Q.msa with | none => _ | some m => _) = _
  cases Q.msa with
  | none => rfl
  | some m =>
    simp only [cropRows_mapCeilo, List.filter_map, List.length_map]
    rfl

theorem construct_mapCeilo :
    construct (P.mapCeilo f) (data.map (Hit.mapCeilo f)) = Chunk.mapCeilo f (construct P data) := by
  unfold construct
  rw [PPrms.mapCeilo_toPrms, crop_mapCeilo]
  rfl

theorem scaledPoints_mapCeilo (dtScale : Rat) (hSpec : ScaleSpec) (keep : List Bool) :
    scaledPoints (data.map (Hit.mapCeilo f)) dtScale hSpec keep = scaledPoints data dtScale hSpec keep := by
  unfold scaledPoints dts heights
  rw [map_height_mapCeilo, List.map_map]
  rfl

theorem scatterLabels_mapCeilo (labels : List Int) (dflt : Int) :
    scatterLabels (data.map (Hit.mapCeilo f)) labels dflt = scatterLabels data labels dflt := by
  unfold scatterLabels
  rw [List.foldl_map]; rfl

theorem sliceIds_mapCeilo : sliceIds K (P.mapCeilo f) (data.map (Hit.mapCeilo f)) = sliceIds K P data := by
  unfold sliceIds
  simp only [scatterLabels_mapCeilo, scaledPoints_mapCeilo, List.filter_map, List.length_map, List.map_map]
  rfl

theorem bundleRows_mapCeilo (inB : List Bool) :
    bundleRows (data.map (Hit.mapCeilo f)) inB = bundleRows data inB := by
  unfold bundleRows
  rw [List.length_map, List.zip_map_left, List.zip_map_right, List.filterMap_map]
  rfl

theorem groupBundle_mapCeilo (sids : List Int) (slices : Table) (bundle : List Nat) (gids : List (Option Int)) :
    groupBundle K (P.mapCeilo f) (data.map (Hit.mapCeilo f)) sids slices bundle gids
      = groupBundle K P data sids slices bundle gids := by
  rw [groupBundle_eq, groupBundle_eq, scaledPoints_mapCeilo, bundleRows_mapCeilo]
  rfl

theorem firstTooClose_mapCeilo (Q : Prms α) (bases : List Rat) :
    firstTooClose (Q.mapCeilo f) bases = firstTooClose Q bases := rfl

theorem grpPos_mapCeilo (gids : List Int) (cid : Int) :
    grpPos K (data.map (Hit.mapCeilo f)) gids cid = grpPos K data gids cid := by
  unfold grpPos
  rw [map_dt_mapCeilo]

theorem groupHeights_mapCeilo (gids : List Int) (cid : Int) :
    groupHeights K (data.map (Hit.mapCeilo f)) gids cid = groupHeights K data gids cid := by
  rw [groupHeights_eq, groupHeights_eq, grpPos_mapCeilo]
  simp only [getElem?_height_mapCeilo]

theorem layerDecide_mapCeilo (gids : List Int) (g : Row) :
    layerDecide K (P.mapCeilo f) (data.map (Hit.mapCeilo f)) gids g = layerDecide K P data gids g := by
  unfold layerDecide
  simp only [groupHeights_mapCeilo, ncompFromGmm_mapCeilo]
  rfl

theorem layerIds_mapCeilo [DecidableEq α] [DecidableEq β] (gids : List Int) (groups : Table) :
    layerIds K (P.mapCeilo f) (data.map (Hit.mapCeilo f)) gids groups = layerIds K P data gids groups := by
  have : layerStep K (P.mapCeilo f) (data.map (Hit.mapCeilo f)) gids groups = layerStep K P data gids groups := by
    funext st ind
    simp only [layerStep, layerDecide_mapCeilo, grpPos_mapCeilo]
  rw [layerIds_eq, layerIds_eq, this, List.map_map]
  rfl

variable [DecidableEq α] [DecidableEq β] (hf : Function.Injective f)
include hf

theorem filter_ne_map_inj (a : α) (l : List α) :
    (l.map f).filter (fun b => !b == f a) = (l.filter (fun b => !b == a)).map f := by
  rw [List.filter_map]
  congr 2
  funext b
  show (!(f b == f a)) = !(b == a)
  congr 1
  rw [Bool.eq_iff_iff, beq_iff_eq, beq_iff_eq]
  exact hf.eq_iff

theorem eraseDups_map_inj : ∀ l : List α, (l.map f).eraseDups = l.eraseDups.map f
  | [] => by simp
  | a :: t => by
    rw [List.map_cons, List.eraseDups_cons, List.eraseDups_cons, List.map_cons, filter_ne_map_inj f hf,
      eraseDups_map_inj (t.filter fun b => !b == a)]
  termination_by l => l.length
  decreasing_by exact Nat.lt_succ_of_le (List.length_filter_le _ _)

theorem ceilos_mapCeilo : ceilos (data.map (Hit.mapCeilo f)) = (ceilos data).map f := by
  unfold ceilos
  rw [List.map_map, ← eraseDups_map_inj f hf, List.map_map]
  rfl

theorem hitCount_mapCeilo (cs : List α) (hs : List (Hit α)) :
    hitCount (cs.map f) (hs.map (Hit.mapCeilo f)) = hitCount cs hs := by
  unfold hitCount
  rw [List.map_map]
  congr 1
  apply List.map_congr_left
  intro c _
  show (((hs.map (Hit.mapCeilo f)).filter (fun h => decide (h.ceilo = f c))).map (·.dt)).eraseDups.length = _
  rw [List.filter_map, map_dt_mapCeilo]
  have : ((fun (h : Hit β) => decide (h.ceilo = f c)) ∘ Hit.mapCeilo f)
      = fun (h : Hit α) => decide (h.ceilo = c) := by
    funext h
    simp [Hit.mapCeilo, hf.eq_iff]
  rw [this]

theorem maxHits_mapCeilo : maxHits (data.map (Hit.mapCeilo f)) = maxHits data := by
  unfold maxHits
  rw [ceilos_mapCeilo f data hf, hitCount_mapCeilo f hf]

theorem contains_map_inj (l : List α) (x : α) : (l.map f).contains (f x) = l.contains x := by
  rw [Bool.eq_iff_iff]
  simp [hf.eq_iff]

theorem baseMask_mapCeilo (Q : Prms α) (ids : List Int) (cid : Int) :
    baseMask (Q.mapCeilo f) (data.map (Hit.mapCeilo f)) ids cid = baseMask Q data ids cid := by
  -- the exclusion test on a renamed hit against the renamed list
  have hfilt : ((fun (x : Hit β × Bool) => x.2 && !((Q.exclude.map f).contains x.1.ceilo)) ∘
      Prod.map (Hit.mapCeilo f) id) = fun (x : Hit α × Bool) => x.2 && !(Q.exclude.contains x.1.ceilo) :=
    funext fun ⟨h, b⟩ => by simp only [Function.comp, Prod.map, id, Hit.mapCeilo, contains_map_inj f hf]
  simp only [baseMask, Prms.mapCeilo, ne_eq, List.map_eq_nil_iff, List.zip_map_left, List.map_map, hfilt]

theorem mkRow_mapCeilo (M : MetK) (Q : Prms α) (w : Which) (ids : List Int) (cid : Int) :
    mkRow M (Q.mapCeilo f) w (data.map (Hit.mapCeilo f)) ids cid = mkRow M Q w data ids cid := by
  unfold mkRow
  simp only [members_map, ceilos_mapCeilo f data hf, hitCount_mapCeilo f hf, maxHits_mapCeilo f data hf,
    baseMask_mapCeilo f data hf, baseForMask_mapCeilo, List.filterMap_map]
  rfl

end

theorem metarize_mapCeilo {α β} [DecidableEq α] [DecidableEq β] (f : α → β) (hf : Function.Injective f)
    (K : MetK) (P : Prms α) (w : Which) (ld : Bool) (data : List (Hit α)) (ids : List Int) :
    metarize K (P.mapCeilo f) w ld (data.map (Hit.mapCeilo f)) ids = metarize K P w ld data ids := by
  unfold metarize
  have : mkRow K (P.mapCeilo f) w (data.map (Hit.mapCeilo f)) ids = mkRow K P w data ids :=
    funext (mkRow_mapCeilo f data hf K P w ids)
  rw [this]

section
variable {α β : Type} [DecidableEq α] [DecidableEq β] (f : α → β) (hf : Function.Injective f) (K : Kern) (P : PPrms α)
include hf

theorem groupBase_mapCeilo (data : List (Hit α)) (gids : List Int) (cid : Int) :
    groupBase K (P.mapCeilo f) (data.map (Hit.mapCeilo f)) gids cid = groupBase K P data gids cid := by
  unfold groupBase
  rw [PPrms.mapCeilo_toPrms, baseMask_mapCeilo f data hf, baseForMask_mapCeilo]

theorem mergeLoop_mapCeilo (data : List (Hit α)) : ∀ (fuel : Nat) (gids : List Int) (prelim : List (Int × Rat)),
    mergeLoop K (P.mapCeilo f) (data.map (Hit.mapCeilo f)) fuel gids prelim = mergeLoop K P data fuel gids prelim
  | 0, _, _ => rfl
  | fuel + 1, gids, prelim => by
    rw [mergeLoop_succ, mergeLoop_succ, PPrms.mapCeilo_toPrms, firstTooClose_mapCeilo]
    simp only [groupBase_mapCeilo f hf, mergeLoop_mapCeilo data fuel]

theorem groupIds_mapCeilo (data : List (Hit α)) (sids : List Int) (slices : Table) :
    groupIds K (P.mapCeilo f) (data.map (Hit.mapCeilo f)) sids slices = groupIds K P data sids slices := by
  have hb : groupBase K (P.mapCeilo f) (data.map (Hit.mapCeilo f)) = groupBase K P data :=
    funext fun gids => funext (groupBase_mapCeilo f hf K P data gids)
  simp only [groupIds_eq, mergeCloseGroups_eq, groupBundle_mapCeilo, hb, mergeLoop_mapCeilo f hf, List.map_map]
  rfl

theorem findSlices_mapCeilo (c : Chunk α) :
    findSlices K (P.mapCeilo f) (Chunk.mapCeilo f c) = (findSlices K P c).map (Chunk.mapCeilo f) := by
  simp only [findSlices, Chunk.mapCeilo, PPrms.mapCeilo_toPrms, sliceIds_mapCeilo, metarize_mapCeilo f hf,
    map_bind_except]
  rfl

/-- The three refusals (no slices table, no slice ids, layering done) read the chunk's unrenamed fields only. -/
theorem findGroups_mapCeilo (c : Chunk α) :
    findGroups K (P.mapCeilo f) (Chunk.mapCeilo f c) = (findGroups K P c).map (Chunk.mapCeilo f) :=
  match c with
  | { slices := none, .. } => rfl
  | { slices := some _, sids := none, .. } => rfl
  | { slices := some _, sids := some _, layers := some _, .. } => rfl
  | { slices := some _, sids := some _, layers := none, .. } => by
    simp only [findGroups, Chunk.mapCeilo, PPrms.mapCeilo_toPrms, groupIds_mapCeilo f hf, metarize_mapCeilo f hf,
      Option.isSome_none, Bool.false_eq_true, if_false, map_bind_except]
    rfl

theorem findLayers_mapCeilo (c : Chunk α) :
    findLayers K (P.mapCeilo f) (Chunk.mapCeilo f c) = (findLayers K P c).map (Chunk.mapCeilo f) :=
  match c with
  | { groups := none, .. } => rfl
  | { groups := some _, gids := none, .. } => rfl
  | { groups := some _, gids := some _, .. } => by
    simp only [findLayers, Chunk.mapCeilo, PPrms.mapCeilo_toPrms, layerIds_mapCeilo, metarize_mapCeilo f hf,
      map_bind_except]
    rfl

end

end Ampy
