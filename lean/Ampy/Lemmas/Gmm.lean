import Ampy.Lemmas.Cascade
import Ampy.Lemmas.CascadeHyps
/-!
`ncomp_from_gmm`: the re-merge pass (it never raises the count; a pass that leaves the count alone merged nothing;
with every component populated the count is the number of distinct ids, which is the `assert` of the code), the score
boost of `Fix #119`, the choice of the mixture, and the function itself: how it can fail, what it returns.
-/
namespace Ampy

theorem remergeStep_cases (minSep : Rat) (sb : List Rat) (st : List Nat × List Nat × Nat) (k : Nat) :
    remergeStep minSep sb st k = st ∨ ∃ src dst, st.1[k + 1]? = some src ∧ st.1[k]? = some dst ∧
      remergeStep minSep sb st k =
        (st.1.set (k + 1) dst, st.2.1.map (fun b => if b = src then dst else b), st.2.2 - 1) := by
  unfold remergeStep
  split
  · split
    · exact .inl rfl
    · split
      · exact .inr ⟨_, _, ‹_›, ‹_›, rfl⟩
      · exact .inl rfl
  · exact .inl rfl

theorem remergeFold_le (minSep : Rat) (sb : List Rat) (l : List Nat) :
    ∀ st : List Nat × List Nat × Nat, (l.foldl (remergeStep minSep sb) st).2.2 ≤ st.2.2 := by
  induction l with
  | nil => intro st; exact le_refl _
  | cons a t ih =>
    intro st
    rw [List.foldl_cons]
    refine le_trans (ih _) ?_
    rcases remergeStep_cases minSep sb st a with h | ⟨_, _, _, _, h⟩
    · rw [h]
    · rw [h]
      exact Nat.sub_le _ _

theorem remerge_le (minSep : Rat) (sortedBases : List Rat) (order ids : List Nat) (n : Nat) :
    (remerge minSep sortedBases order ids n).2 ≤ n := by
  rw [remerge_eq]
  exact remergeFold_le minSep sortedBases _ _

/-- A pass whose counter did not move took the "far enough" branch at every index: a close gap lowers the counter
and nothing raises it again. -/
theorem remergeFold_unmerged (minSep : Rat) (sb : List Rat) (l : List Nat) (hl : ∀ ind ∈ l, ind + 1 < sb.length) :
    ∀ st : List Nat × List Nat × Nat, st.1.length = sb.length → 1 ≤ st.2.2 →
      (l.foldl (remergeStep minSep sb) st).2.2 = st.2.2 →
      l.foldl (remergeStep minSep sb) st = st ∧
      ∀ ind (hi : ind ∈ l), sb[ind + 1]'(hl ind hi) - sb[ind]'(by have := hl ind hi; omega) ≥ minSep := by
  induction l with
  | nil => exact fun st _ _ _ => ⟨rfl, fun _ hi => nomatch hi⟩
  | cons a t ih =>
    intro st hlen h1 hfin
    rw [List.foldl_cons] at hfin ⊢
    have ha := hl a List.mem_cons_self
    have ha0 : a < sb.length := by omega
    by_cases hc : sb[a + 1] - sb[a] ≥ minSep
    · have hstep : remergeStep minSep sb st a = st := by
        unfold remergeStep
        rw [List.getElem?_eq_getElem ha, List.getElem?_eq_getElem ha0]
        exact if_pos hc
      rw [hstep] at hfin ⊢
      obtain ⟨e, hall⟩ := ih (fun i hi => hl i (List.mem_cons_of_mem _ hi)) st hlen h1 hfin
      refine ⟨e, fun ind hi => ?_⟩
      rcases List.mem_cons.mp hi with rfl | hi
      · exact hc
      · exact hall ind hi
    · exfalso
      have hstep : (remergeStep minSep sb st a).2.2 = st.2.2 - 1 := by
        unfold remergeStep
        rw [List.getElem?_eq_getElem ha, List.getElem?_eq_getElem ha0]
        simp only
        rw [if_neg hc, List.getElem?_eq_getElem (show a + 1 < st.1.length by omega),
          List.getElem?_eq_getElem (show a < st.1.length by omega)]
      have := remergeFold_le minSep sb t (remergeStep minSep sb st a)
      omega

theorem remerge_unmerged {minSep : Rat} (sb : List Rat) (order ids : List Nat) (n : Nat)
    (hlen : order.length = sb.length) (hn : 1 ≤ n) (h : (remerge minSep sb order ids n).2 = n) :
    (remerge minSep sb order ids n).1 = ids ∧
      (0 ≤ minSep → ∀ i j (_ : i < j) (hj : j < sb.length), sb[j] - sb[i]'(by omega) ≥ minSep) := by
  rw [remerge_eq] at h ⊢
  have hl : ∀ ind ∈ List.range (sb.length - 1), ind + 1 < sb.length := fun ind hi => by
    have := List.mem_range.mp hi
    omega
  obtain ⟨e, hadj⟩ := remergeFold_unmerged minSep sb _ hl (order, ids, n) hlen hn h
  exact ⟨by rw [e], fun h0 => gaps_of_adjacent_gaps sb (fun _ => minSep) (fun _ => h0)
    fun k hk => hadj k (List.mem_range.mpr (by omega))⟩

theorem remerge_ids_lt (minSep : Rat) (sb : List Rat) (order ids : List Nat) (n B : Nat)
    (ho : ∀ c ∈ order, c < B) (hi : ∀ c ∈ ids, c < B) :
    (remerge minSep sb order ids n).1.length = ids.length ∧
      ∀ c ∈ (remerge minSep sb order ids n).1, c < B := by
  rw [remerge_eq]
  refine And.right (List.foldlRecOn
    (motive := fun st => (∀ c ∈ st.1, c < B) ∧ st.2.1.length = ids.length ∧ ∀ c ∈ st.2.1, c < B)
    (List.range (sb.length - 1)) (remergeStep minSep sb) ⟨ho, rfl, hi⟩ ?_)
  rintro st ⟨h1, h2, h3⟩ ind -
  rcases remergeStep_cases minSep sb st ind with h | ⟨src, dst, _, hdst, h⟩
  · rw [h]
    exact ⟨h1, h2, h3⟩
  · rw [h]
    have hd : dst < B := h1 dst (List.mem_of_getElem? hdst)
    refine ⟨fun c hc => ?_, by simpa using h2, fun c hc => ?_⟩
    · rcases List.mem_or_eq_of_mem_set hc with hc | hc
      · exact h1 c hc
      · exact hc ▸ hd
    · obtain ⟨b, hb, rfl⟩ := List.mem_map.mp hc
      split
      · exact hd
      · exact h3 b hb

/-- The re-merge pass after the indices `< k`. `st.1`, the component ids in the order of the sorted bases, starts as
`order`: beyond `k` it still is, up to `k` each entry comes from a position `≤ k` of `order`. `st.2.1`, the labels,
take exactly the values in `st.1`; `st.2.2` counts them. -/
structure RemergeInv (order : List Nat) (k : Nat) (st : List Nat × List Nat × Nat) : Prop where
  tail : ∀ j, k < j → st.1[j]? = order[j]?
  head : ∀ j x, j ≤ k → st.1[j]? = some x → ∃ j', j' ≤ k ∧ order[j']? = some x
  same : ∀ x, x ∈ st.2.1 ↔ x ∈ st.1
  card : st.2.2 = st.2.1.toFinset.card

theorem RemergeInv_skip {order : List Nat} {k : Nat} {st : List Nat × List Nat × Nat}
    (h : RemergeInv order k st) : RemergeInv order (k + 1) st := by
  refine ⟨fun j hj => h.tail j (Nat.lt_of_succ_lt hj), fun j x hj hx => ?_, h.same, h.card⟩
  rcases Nat.lt_or_eq_of_le hj with hjk | rfl
  · obtain ⟨j', h1, h2⟩ := h.head j x (Nat.le_of_lt_succ hjk) hx
    exact ⟨j', Nat.le_succ_of_le h1, h2⟩
  · exact ⟨k + 1, le_refl _, h.tail (k + 1) (Nat.lt_succ_self k) ▸ hx⟩

theorem mem_set_unique (l : List Nat) (p : Nat) (src dst : Nat) (hne : dst ≠ src) (hd : dst ∈ l)
    (hp : l[p]? = some src) (hu : ∀ j, l[j]? = some src → j = p) (x : Nat) :
    x ∈ l.set p dst ↔ x ∈ l ∧ x ≠ src := by
  constructor
  · intro hx
    rcases List.mem_or_eq_of_mem_set hx with hx' | rfl
    · refine ⟨hx', fun hxs => ?_⟩
      obtain ⟨j, hj⟩ := List.mem_iff_getElem?.mp hx
      rw [List.getElem?_set] at hj
      split at hj
      · split at hj
        · exact hne (hxs ▸ (Option.some.inj hj))
        · cases hj
      · exact ‹¬ p = j› (hu j (hxs ▸ hj)).symm
    · exact ⟨hd, hne⟩
  · rintro ⟨hx, hxs⟩
    obtain ⟨j, hj⟩ := List.mem_iff_getElem?.mp hx
    have hjp : p ≠ j := by
      rintro rfl
      exact hxs (Option.some.inj (hj.symm.trans hp))
    exact List.mem_iff_getElem?.mpr ⟨j, (List.getElem?_set_ne hjp).trans hj⟩

theorem RemergeInv_merge {order : List Nat} {k : Nat} {st : List Nat × List Nat × Nat}
    (hnd : order.Nodup) (h : RemergeInv order k st) (src dst : Nat) (hs : st.1[k + 1]? = some src)
    (hd : st.1[k]? = some dst) :
    RemergeInv order (k + 1)
      (st.1.set (k + 1) dst, st.2.1.map (fun y => if y = src then dst else y), st.2.2 - 1) := by
  have hsrc : order[k + 1]? = some src := h.tail (k + 1) (Nat.lt_succ_self k) ▸ hs
  -- `src` sits at position `k + 1` of `order` only, hence of the component ids only
  have hord : ∀ j, order[j]? = some src → j = k + 1 := fun j hj =>
    (List.getElem?_inj (List.getElem?_eq_some_iff.mp hj).1 hnd).mp (hj.trans hsrc.symm)
  have hu : ∀ j, st.1[j]? = some src → j = k + 1 := fun j hj => by
    rcases Nat.lt_or_ge k j with hkj | hjk
    · exact hord j (h.tail j hkj ▸ hj)
    · obtain ⟨j', h1, h2⟩ := h.head j src hjk hj
      exact absurd (hord j' h2) (by omega)
  have hne : dst ≠ src := fun e => absurd (hu k (e ▸ hd)) (Nat.ne_of_lt (Nat.lt_succ_self k))
  have hdm : dst ∈ st.1 := List.mem_of_getElem? hd
  refine ⟨fun j hj => ?_, fun j x hj hx => ?_, fun x => ?_, ?_⟩
  · rw [List.getElem?_set_ne (Nat.ne_of_lt hj)]
    exact h.tail j (Nat.lt_of_succ_lt hj)
  · simp only at hx
    rcases Nat.lt_or_eq_of_le hj with hjk | rfl
    · rw [List.getElem?_set_ne (Nat.ne_of_gt hjk)] at hx
      obtain ⟨j', h1, h2⟩ := h.head j x (Nat.le_of_lt_succ hjk) hx
      exact ⟨j', Nat.le_succ_of_le h1, h2⟩
    · rw [List.getElem?_set_self (List.getElem?_eq_some_iff.mp hs).1] at hx
      obtain ⟨jd, hjd, hdo⟩ := h.head k dst (le_refl _) hd
      exact ⟨jd, Nat.le_succ_of_le hjd, Option.some.inj hx ▸ hdo⟩
  · show x ∈ st.2.1.map _ ↔ x ∈ st.1.set (k + 1) dst
    rw [mem_map_replace _ src dst hne ((h.same dst).mpr hdm), mem_set_unique _ _ src dst hne hdm hs hu, h.same]
  · show st.2.2 - 1 = (st.2.1.map _).toFinset.card
    have hfs : (st.2.1.map (fun y => if y = src then dst else y)).toFinset = st.2.1.toFinset.erase src := by
      ext x
      rw [List.mem_toFinset, mem_map_replace _ src dst hne ((h.same dst).mpr hdm), Finset.mem_erase, List.mem_toFinset]
      exact And.comm
    rw [hfs, Finset.card_erase_of_mem (List.mem_toFinset.mpr ((h.same src).mpr (List.mem_of_getElem? hs))), h.card]

theorem RemergeInv_step {order : List Nat} {k : Nat} {st : List Nat × List Nat × Nat} (minSep : Rat) (sb : List Rat)
    (hnd : order.Nodup) (h : RemergeInv order k st) : RemergeInv order (k + 1) (remergeStep minSep sb st k) := by
  rcases remergeStep_cases minSep sb st k with e | ⟨src, dst, hs, hd, e⟩
  · rw [e]
    exact RemergeInv_skip h
  · rw [e]
    exact RemergeInv_merge hnd h src dst hs hd

/-- With all `n` components populated the `assert` of `ncomp_from_gmm` holds: the counter is the number of distinct
ids. -/
theorem remerge_count (minSep : Rat) (sb : List Rat) (order ids : List Nat) (n : Nat)
    (hperm : order.Perm (List.range n)) (hids : ∀ x, x ∈ ids ↔ x < n) :
    ((remerge minSep sb order ids n).1.eraseDups).length = (remerge minSep sb order ids n).2 := by
  have hnd : order.Nodup := hperm.nodup_iff.mpr List.nodup_range
  have h0 : RemergeInv order 0 (order, ids, n) :=
    ⟨fun _ _ => rfl, fun j x hj hx => ⟨j, hj, hx⟩, fun x => by rw [hids x, hperm.mem_iff, List.mem_range], by
      have : ids.toFinset = Finset.range n := by
        ext x
        rw [List.mem_toFinset, Finset.mem_range, hids x]
      show n = _
      rw [this, Finset.card_range]⟩
  rw [remerge_eq, eraseDups_length_eq_card]
  exact (foldl_range_inv _ (RemergeInv order) _ _ h0 fun k st _ h => RemergeInv_step minSep sb hnd h).card.symm

/-- The index `bestDelta` holds only moves to a candidate `m + 1` whose score, read with the current best's, wins. -/
theorem bestDelta_induct (abics : List Rat) (gain : Rat) (I : Nat → Prop) (h0 : I 0)
    (hstep : ∀ best m a b, I best → abics[m + 1]? = some a → abics[best]? = some b → a < gain * b → I (m + 1)) :
    I (bestDelta abics gain) := by
  unfold bestDelta
  refine List.foldlRecOn (motive := I) _ _ h0 fun best hbest m _ => ?_
  split
  next a b ha hb =>
    split
    next hlt => exact hstep best m a b hbest ha hb hlt
    next => exact hbest
  next => exact hbest

theorem bestDelta_lt (abics : List Rat) (gain : Rat) (h : abics ≠ []) : bestDelta abics gain < abics.length :=
  bestDelta_induct abics gain (· < abics.length) (List.length_pos_iff.mpr h)
    fun _ _ _ _ _ ha _ _ => (List.getElem?_eq_some_iff.mp ha).1

namespace Sel

/-- The condition under which `boostStep` raises entry `i`. -/
def Boosted (fits : List GmmFit) (i : Nat) : Prop :=
  ∃ f, fits[i]? = some f ∧ (f.labels.eraseDups).length < i + 1

structure BoostInv (fits : List GmmFit) (k : Nat) (ab : List Rat) : Prop where
  len : ab.length = fits.length
  keep : ∀ j g, ¬ Boosted fits j → fits[j]? = some g → ab[j]? = some g.score
  /-- processed boosted entries exceed every unboosted score by at least one -/
  above : ∀ i, i < k → Boosted fits i → ∀ j, ¬ Boosted fits j → ∀ a g,
    ab[i]? = some a → fits[j]? = some g → g.score + 1 ≤ a

theorem boostStep_of_boosted {fits : List GmmFit} {k : Nat} (h : Boosted fits k) (ab : List Rat) :
    boostStep fits ab k = ab.set k (maxRat ab + 1) := by
  obtain ⟨f, hf, hlt⟩ := h
  unfold boostStep
  rw [hf]
  exact if_pos hlt

theorem boostStep_of_not_boosted {fits : List GmmFit} {k : Nat} (h : ¬ Boosted fits k) (ab : List Rat) :
    boostStep fits ab k = ab := by
  unfold boostStep
  split
  · exact if_neg fun hlt => h ⟨_, ‹_›, hlt⟩
  · rfl

theorem boostInv_step (fits : List GmmFit) (k : Nat) (ab : List Rat) (h : BoostInv fits k ab) :
    BoostInv fits (k + 1) (boostStep fits ab k) := by
  by_cases hB : Boosted fits k
  · rw [boostStep_of_boosted hB]
    refine ⟨List.length_set.trans h.len, fun j g hj hg => ?_, fun i hi hBi j hj a g ha hg => ?_⟩
    · rw [List.getElem?_set_ne fun (e : k = j) => hj (e ▸ hB)]
      exact h.keep j g hj hg
    · rcases Nat.lt_or_eq_of_le (Nat.le_of_lt_succ hi) with hik | rfl
      · rw [List.getElem?_set_ne (Nat.ne_of_gt hik)] at ha
        exact h.above i hik hBi j hj a g ha hg
      · -- the new entry is one above the maximum, which bounds every unboosted score still in place
        obtain ⟨f, hf, _⟩ := hB
        rw [List.getElem?_set_self (h.len ▸ (List.getElem?_eq_some_iff.mp hf).1)] at ha
        cases ha
        exact add_le_add_left (le_maxRat (List.mem_of_getElem? (h.keep j g hj hg))) 1
  · rw [boostStep_of_not_boosted hB]
    refine ⟨h.len, h.keep, fun i hi hBi => ?_⟩
    rcases Nat.lt_or_eq_of_le (Nat.le_of_lt_succ hi) with hik | rfl
    · exact h.above i hik hBi
    · exact absurd hBi hB

theorem boostScores_inv (fits : List GmmFit) : BoostInv fits fits.length (boostScores fits) := by
  rw [boostScores_eq]
  refine foldl_range_inv _ (BoostInv fits) _ _
    ⟨List.length_map _, fun j g _ hg => ?_, fun i hi => absurd hi (Nat.not_lt_zero i)⟩
    fun k ab _ h => boostInv_step fits k ab h
  rw [List.getElem?_map, hg]
  rfl

end Sel

theorem Sel.boostScores_length (fits : List GmmFit) : (boostScores fits).length = fits.length :=
  (Sel.boostScores_inv fits).len

theorem selIdx_lt {α} (K : Kern) (P : PPrms α) (hK : KernOK K P.basePerc) (abics : List Rat) (h : abics ≠ []) :
    selIdx K P abics < abics.length := by
  unfold selIdx
  split
  · exact bestDelta_lt _ _ h
  · exact hK.bestProb_lt _ _ h

theorem gmmBest_eq_selIdx {α} (K : Kern) (P : PPrms α) (abics : List Rat)
    (h : P.gmmMode = "delta" ∨ P.gmmMode = "prob") : gmmBest K P abics = .ok (selIdx K P abics) := by
  unfold gmmBest selIdx
  split
  · rfl
  · rw [if_pos (h.resolve_left ‹_›)]
    rfl

/-- An unknown mode goes unnoticed with a single mixture, whose index is `0`. -/
theorem gmmBest_post {α} (K : Kern) (P : PPrms α) (abics : List Rat) (b : Nat) (h : gmmBest K P abics = .ok b) :
    b = selIdx K P abics ∨ b = 0 := by
  by_cases hm : P.gmmMode = "delta" ∨ P.gmmMode = "prob"
  · rw [gmmBest_eq_selIdx K P abics hm] at h
    exact .inl (Except.ok.inj h).symm
  · unfold gmmBest at h
    rw [if_neg fun h => hm (.inl h), if_neg fun h => hm (.inr h)] at h
    split at h
    · exact .inr (Except.ok.inj h).symm
    · exact nomatch h

theorem gmmScaled_length {α} (P : PPrms α) (vals : List Rat) : (gmmScaled P vals).length = vals.length := by
  unfold gmmScaled
  split
  · rfl
  · -- `minmaxScale` maps the entries, all `some`, so `valids` drops none
    simp [minmaxScale, valids]

theorem gmmFits_getElem? {α} (K : Kern) (P : PPrms α) (vals : List Rat) (m best : Nat) (f : GmmFit) :
    (gmmFits K P vals m)[best]? = some f ↔
      best < min m (vals.eraseDups).length ∧ f = K.gmm P.gmmScores (gmmScaled P vals) (best + 1) :=
  getElem?_map_range_iff _ _ _ _

/-- The single-component mixture labels at least one value. -/
theorem gmmFits_zero_populated {α} (K : Kern) (P : PPrms α) (q : Rat) (hK : KernOK K q) (vals : List Rat) (m : Nat)
    (f : GmmFit) (h : (gmmFits K P vals m)[0]? = some f) : ¬ (f.labels.eraseDups).length < 0 + 1 := by
  obtain ⟨h0, rfl⟩ := (gmmFits_getElem? ..).mp h
  have hl : (K.gmm P.gmmScores (gmmScaled P vals) (0 + 1)).labels ≠ [] := fun he => by
    have h1 := (hK.gmm_len P.gmmScores (gmmScaled P vals) (0 + 1)).trans (gmmScaled_length P vals)
    rw [he, eq_comm, List.length_nil, List.length_eq_zero_iff] at h1
    simp [h1] at h0
  have := eraseDups_length_pos _ hl
  omega

theorem compVals_ne_nil (vals : List Rat) (labels : List Nat) (hl : labels.length = vals.length) (i : Nat)
    (hi : i ∈ labels) : compVals vals labels i ≠ [] := by
  obtain ⟨j, hj, hji⟩ := List.mem_iff_getElem.mp hi
  apply List.ne_nil_of_mem (a := vals[j]'(hl ▸ hj))
  unfold compVals
  rw [List.mem_filterMap]
  exact ⟨_, zip_getElem_mem vals labels j (hl ▸ hj) hj, by simp [hji]⟩

theorem compBases_sat {α} (K : Kern) (P : PPrms α) (vals : List Rat) (labels : List Nat) (n : Nat) :
    Sat (compBases K P vals labels n)
      (List.Forall₂ (fun i b => calcBase K.pctl (compVals vals labels i) P.lookback P.basePerc = .ok b)
        (List.range n))
      (fun e => e = .ampy "Cloud base calculation got an empty array" ∧ ∃ i < n, compVals vals labels i = []) :=
  Sat.mapM _ fun i hi => Sat.of_eq fun _ he =>
    have h := (calcBase_sat ..).of_error he
    ⟨h.2, i, List.mem_range.mp hi, h.1⟩

theorem compBases_length {α} {K : Kern} {P : PPrms α} {vals : List Rat} {labels : List Nat} {n : Nat}
    {bases : List Rat} (h : compBases K P vals labels n = .ok bases) : bases.length = n := by
  rw [← ((compBases_sat ..).of_ok h).length_eq, List.length_range]

theorem gmmTail_sat {α} (K : Kern) (P : PPrms α) (vals : List Rat) (minSep : Rat) (fits : List GmmFit) (best : Nat) :
    Sat (gmmTail K P vals minSep fits best)
      (fun r => ∃ f, fits[best]? = some f ∧
        ((best = 0 ∧ r = (1, f.labels)) ∨
         (best ≠ 0 ∧ ∃ bases, compBases K P vals f.labels (best + 1) = .ok bases ∧
            ∃ rm, rm = remerge minSep (applyPerm (K.argsort bases) bases) (K.argsort bases) f.labels (best + 1) ∧
              (rm.1.eraseDups).length = rm.2 ∧ r = (rm.2, rm.1))))
      (fun e => (fits[best]? = none ∧ e = .other "IndexError") ∨
        ∃ f, fits[best]? = some f ∧ best ≠ 0 ∧
          ((e = .ampy "Cloud base calculation got an empty array" ∧ ∃ i < best + 1, compVals vals f.labels i = []) ∨
           (e = .other "AssertionError" ∧ ∃ bases, compBases K P vals f.labels (best + 1) = .ok bases ∧
              ∃ rm, rm = remerge minSep (applyPerm (K.argsort bases) bases) (K.argsort bases) f.labels (best + 1) ∧
                (rm.1.eraseDups).length ≠ rm.2))) := by
  unfold gmmTail
  split
  next hnone => exact .inl ⟨hnone, rfl⟩
  next f hf =>
    split
    · exact ⟨f, hf, .inl ⟨by omega, rfl⟩⟩
    · have hb : best ≠ 0 := by omega
      refine Sat.bind (Sat.of_eq fun e he => .inr ⟨f, hf, hb, .inl ((compBases_sat ..).of_error he)⟩)
        fun bases hbases => ?_
      dsimp only
      split
      next hcnt => exact .inr ⟨f, hf, hb, .inr ⟨rfl, bases, hbases, _, rfl, hcnt⟩⟩
      next hcnt => exact ⟨f, hf, .inr ⟨hb, bases, hbases, _, rfl, not_not.mp hcnt, rfl⟩⟩

theorem ncompFromGmm_cases {α} (K : Kern) (P : PPrms α) (vals : List Rat) (m : Nat) (minSep : Rat)
    (r : Nat × List Nat) (h : ncompFromGmm K P vals m minSep = .ok r) :
    r = (1, vals.map fun _ => 0) ∨
    ∃ best, gmmBest K P (boostScores (gmmFits K P vals m)) = .ok best ∧
      gmmTail K P vals minSep (gmmFits K P vals m) best = .ok r := by
  rw [ncompFromGmm_eq] at h
  split_ifs at h
  · exact .inl (Except.ok.inj h).symm
  · exact .inr (bind_eq_ok.mp h)

theorem gmmTail_post {α} (K : Kern) (P : PPrms α) (hK : KernOK K P.basePerc) (vals : List Rat) (m : Nat)
    (minSep : Rat) (best n : Nat) (ids : List Nat)
    (h : gmmTail K P vals minSep (gmmFits K P vals m) best = .ok (n, ids)) :
    best < min m (vals.eraseDups).length ∧ ids.length = vals.length ∧ (∀ c ∈ ids, c < best + 1) ∧
      n ≤ best + 1 ∧ (n = 1 ∨ ids.eraseDups.length = n) := by
  obtain ⟨f, hf, h⟩ := (gmmTail_sat K P vals minSep _ best).of_ok h
  obtain ⟨hbm, rfl⟩ := (gmmFits_getElem? ..).mp hf
  have hlen := (hK.gmm_len P.gmmScores (gmmScaled P vals) (best + 1)).trans (gmmScaled_length P vals)
  have hlt := hK.gmm_lt P.gmmScores (gmmScaled P vals) (best + 1) (Nat.succ_pos best)
  rcases h with ⟨_, h⟩ | ⟨_, bases, hbases, rm, rfl, hcnt, h⟩
  · cases h
    exact ⟨hbm, hlen, hlt, by omega, .inl rfl⟩
  · cases h
    have hord : ∀ c ∈ K.argsort bases, c < best + 1 := fun c hc => by
      have := (isPermOf_perm (hK.argsort_perm bases)).subset hc
      rwa [List.mem_range, compBases_length hbases] at this
    obtain ⟨h1, h2⟩ := remerge_ids_lt minSep (applyPerm (K.argsort bases) bases) (K.argsort bases) _ (best + 1)
      (best + 1) hord hlt
    exact ⟨hbm, h1.trans hlen, h2, remerge_le .., .inr hcnt⟩

theorem ncompFromGmm_post {α} (K : Kern) (P : PPrms α) (hK : KernOK K P.basePerc) (vals : List Rat)
    (m : Nat) (minSep : Rat) (n : Nat) (ids : List Nat) (h : ncompFromGmm K P vals m minSep = .ok (n, ids)) :
    ids.length = vals.length ∧ (∀ c ∈ ids, c < max m 1) ∧ 1 ≤ n ∧ n ≤ max m 1 ∧
      (n = 1 ∨ ids.eraseDups.length = n) := by
  rcases ncompFromGmm_cases K P vals m minSep _ h with h | ⟨best, _, h⟩
  · cases h
    exact ⟨List.length_map _, fun c hc => by
      obtain ⟨_, _, rfl⟩ := List.mem_map.mp hc
      exact lt_of_lt_of_le Nat.zero_lt_one (le_max_right m 1), le_refl _, le_max_right m 1, .inl rfl⟩
  · obtain ⟨hb, hl, hlt, hle, hn⟩ := gmmTail_post K P hK vals m minSep best n ids h
    have hb1 : best + 1 ≤ max m 1 :=
      le_trans (Nat.succ_le_of_lt hb) (le_trans (Nat.min_le_left _ _) (le_max_left m 1))
    refine ⟨hl, fun c hc => lt_of_lt_of_le (hlt c hc) hb1, ?_, le_trans hle hb1, hn⟩
    rcases hn with rfl | hn
    · exact le_refl _
    · -- a tail entered on a fit has values, hence ids
      refine hn ▸ eraseDups_length_pos ids fun h0 => ?_
      rw [h0, List.length_nil] at hl
      rw [List.eq_nil_of_length_eq_zero hl.symm] at hb
      exact absurd hb (by simp)

theorem gmmTail_error {α} (K : Kern) (P : PPrms α) (hK : KernOK K P.basePerc) (vals : List Rat) (minSep : Rat)
    (fits : List GmmFit) (best : Nat) (f : GmmFit) (hf : fits[best]? = some f) (hlen : f.labels.length = vals.length)
    (hlt : ∀ l ∈ f.labels, l < best + 1) (e : AmpyErr) (h : gmmTail K P vals minSep fits best = .error e) :
    (e = .ampy "Cloud base calculation got an empty array" ∨ e = .other "AssertionError") ∧
      ¬ ∀ i, i < best + 1 → i ∈ f.labels := by
  rcases (gmmTail_sat K P vals minSep fits best).of_error h with ⟨hnone, _⟩ | ⟨f', hf', _, he⟩
  · exact nomatch hnone.symm.trans hf
  · obtain rfl : f' = f := Option.some.inj (hf'.symm.trans hf)
    rcases he with ⟨rfl, i, hi, hnil⟩ | ⟨rfl, bases, hbases, rm, rfl, hcnt⟩
    · exact ⟨.inl rfl, fun hp => compVals_ne_nil vals _ hlen i (hp i hi) hnil⟩
    · refine ⟨.inr rfl, fun hp => hcnt ?_⟩
      have hperm := isPermOf_perm (hK.argsort_perm bases)
      rw [compBases_length hbases] at hperm
      exact remerge_count minSep _ _ _ _ hperm fun x => ⟨hlt x, hp x⟩

/-- On a non-empty array with `1 ≤ ncomp_max`, `ncomp_from_gmm` fails only by the empty-component refusal of
`calc_base_height` or by its `assert`, and only if the selected mixture leaves a component empty. -/
theorem ncompFromGmm_error {α} (K : Kern) (P : PPrms α) (hK : KernOK K P.basePerc) (hP : PrmsOK P)
    (vals : List Rat) (m : Nat) (minSep : Rat) (hne : vals ≠ []) (hmax : 1 ≤ m) (e : AmpyErr)
    (h : ncompFromGmm K P vals m minSep = .error e) :
    (e = .ampy "Cloud base calculation got an empty array" ∨ e = .other "AssertionError") ∧
      ¬ ∀ n f, selectedFit K P vals m = some (n, f) → ∀ i, i < n → i ∈ f.labels := by
  rw [ncompFromGmm_eq] at h
  split at h
  · exact nomatch h
  · rw [if_neg (fun h => hP.scores.elim h.1 h.2), gmmBest_eq_selIdx K P _ hP.mode, ok_bind] at h
    have hfl : (boostScores (gmmFits K P vals m)).length = min m (vals.eraseDups).length := by
      rw [Sel.boostScores_length, gmmFits, List.length_map, List.length_range]
    have hane : boostScores (gmmFits K P vals m) ≠ [] := fun h => by
      have := eraseDups_length_pos vals hne
      rw [h] at hfl
      simp only [List.length_nil] at hfl
      omega
    -- the index chosen is the one `selectedFit` reads, and lies inside the list of fits
    have hsel := selIdx_lt K P hK _ hane
    rw [hfl] at hsel
    have hf := (gmmFits_getElem? K P vals m _ _).mpr ⟨hsel, rfl⟩
    obtain ⟨h1, h2⟩ := gmmTail_error K P hK vals minSep _ _ _ hf
      ((hK.gmm_len ..).trans (gmmScaled_length P vals)) (hK.gmm_lt _ _ _ (Nat.succ_pos _)) e h
    exact ⟨h1, fun hp => h2 (hp _ _ (by rw [selectedFit_eq, hf]; rfl))⟩

end Ampy
