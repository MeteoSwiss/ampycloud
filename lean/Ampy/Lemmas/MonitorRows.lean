import Ampy.Spec.C18
import Ampy.Spec.Checks
import Ampy.Props.C03
import Ampy.Props.C18
import Mathlib.Tactic.Ring
import Mathlib.Tactic.Positivity
/-!
What the monitor theorems of C18, C03 and C04 rest on: the C18 predicates on the model's oktas and height
codes, and `Spec.c03` / `Spec.c04` on any table whose rows hold what `mkRow` computes (`RowOf`).
-/

namespace Ampy

theorem spec_c18height_sound (h : Rat) (h0 : 0 ≤ h) (h1 : h < 100000) :
    Spec.c18height h (height2code (some h)) = true := by
  obtain ⟨r0, r1⟩ := hh_range h0 h1
  obtain ⟨n, hn⟩ : ∃ n : Nat, heightHundreds h = (n : Int) := ⟨(heightHundreds h).toNat, by omega⟩
  obtain ⟨a, b, c, ha, hb, hc, hv, e⟩ := padNat3_digits (k := n) (by omega)
  have cast : ((heightHundreds h : Int) : Rat) = (n : Rat) := by rw [hn]; simp
  have e' : height2code (some h) = String.ofList [a.digitChar, b.digitChar, c.digitChar] := by
    show fmt03 (heightHundreds h) = _
    rw [fmt03, hn, if_pos (by omega), Int.toNat_natCast, e]
  rw [e']
  unfold Spec.c18height
  rw [String.toList_ofList]
  -- the monitor decodes the digits `a b c` back to `n`
  simp only [Nat.isDigit_digitChar, ha, hb, hc, Nat.toNat_digitChar_sub_48_of_lt_ten, ← hv, decide_true,
    Bool.true_and, Bool.and_eq_true, decide_eq_true_eq, ← cast]
  refine ⟨hh_le h, ?_⟩
  split
  · rename_i hl; simpa using (hh_low hl).2
  · rename_i hl
    obtain ⟨_, b', c'⟩ := hh_high hl
    simp only [Bool.and_eq_true, beq_iff_eq, decide_eq_true_eq]
    exact ⟨by omega, b'⟩

theorem absRat_sub_le_iff (x k c : Rat) : absRat (x - k) ≤ c ↔ k - c ≤ x ∧ x ≤ k + c := by
  rw [absRat_eq_abs, abs_le]
  exact and_congr (by rw [neg_le_sub_iff_le_add, sub_le_iff_le_add]) sub_le_iff_le_add'

/-- A nearest integer of `x = 8n/m`, clipped to `1..7`, is what the monitor accepts strictly between the ends: where
the clip moves `r`, `x` lies in the widened end bin. -/
theorem c18okta_of_nearest {n m : Nat} (hn0 : n ≠ 0) (hnm : n ≠ m) (r : Int)
    (h1 : (r : Rat) - 1/2 ≤ 8 * (n : Rat) / (m : Rat)) (h2 : 8 * (n : Rat) / (m : Rat) ≤ (r : Rat) + 1/2) :
    Spec.c18okta n m (max 1 (min 7 r)) = true := by
  unfold Spec.c18okta
  rw [if_neg hn0, if_neg hnm]
  generalize 8 * (n : Rat) / (m : Rat) = x at h1 h2
  simp only [Bool.and_eq_true, Bool.or_eq_true, decide_eq_true_eq, beq_iff_eq, absRat_sub_le_iff]
  by_cases hlo : r ≤ 0
  · have : (r : Rat) ≤ 0 := by exact_mod_cast hlo
    rw [show max 1 (min 7 r) = 1 by omega]
    exact ⟨by decide, .inl (.inr ⟨rfl, h2.trans (add_le_of_nonpos_left this)⟩)⟩
  by_cases hhi : 8 ≤ r
  · have : (8 : Rat) ≤ r := by exact_mod_cast hhi
    rw [show max 1 (min 7 r) = 7 by omega]
    exact ⟨by decide, .inr ⟨rfl, le_trans (by norm_num) ((sub_le_sub_right this _).trans h1)⟩⟩
  · rw [show max 1 (min 7 r) = r by omega]
    exact ⟨⟨by omega, by omega⟩, .inl (.inl ⟨h1, h2⟩)⟩

theorem c18okta_oktaOfPerc (n m : Nat) (hm : 0 < m) (h : n ≤ m) :
    Spec.c18okta n m (oktaOfPerc ((n : Rat) / (m : Rat) * 100)) = true := by
  by_cases hn0 : n = 0
  · rw [(C18_zero_iff n m hm h).mpr hn0, Spec.c18okta, if_pos hn0]; rfl
  by_cases hnm : n = m
  · rw [(C18_eight_iff n m hm h).mpr hnm, Spec.c18okta, if_neg hn0, if_pos hnm]; rfl
  have hr := percNM_range hm h
  obtain ⟨r, h1, h2, e⟩ := C18_nearest_clipped _ (hr.1.lt_of_ne' (mt (percNM_eq_zero hm).mp hn0))
    (hr.2.lt_of_ne (mt (percNM_eq_hundred hm).mp hnm))
  have hx : (n : Rat) / (m : Rat) * 100 * 8 / 100 = 8 * (n : Rat) / (m : Rat) := by ring
  rw [hx] at h1 h2
  rw [e]
  exact c18okta_of_nearest hn0 hnm r h1 h2

theorem close_refl (a : Rat) : Spec.close a a = true := by
  unfold Spec.close
  simp only [sub_self, decide_eq_true_eq]
  have h0 : absRat 0 = 0 := by unfold absRat; simp
  rw [h0]
  have := absRat_nonneg a
  split <;> positivity

theorem foldl_nil_of {β γ} (g : List γ → β → List γ) (l : List β) (h : ∀ r ∈ l, g [] r = []) :
    l.foldl g [] = [] := by
  induction l with
  | nil => rfl
  | cons a l ih =>
    rw [List.foldl_cons, h a (List.mem_cons_self)]
    exact ih (fun r hr => h r (List.mem_cons_of_mem _ hr))

theorem okta2code_prefix (o : Int) (h0 : 0 ≤ o) (h8 : o ≤ 8) (p : String)
    (hp : okta2code (.int o) = .ok (some p)) :
    p.toList.length = 3 ∧ (Spec.prefixOkta p).contains o = true := by
  obtain ⟨p', hp', ht⟩ := okta2code_table h0 h8
  cases hp.symm.trans hp'
  -- row by row of the abbreviation table: `Spec.prefixOkta` lists the oktas of that row
  have mem : ∀ l : List Int, o ∈ l → l.contains o = true := fun l h => List.contains_iff_mem.mpr h
  rcases ht with ⟨rfl, rfl⟩ | ⟨h1, h2, rfl⟩ | ⟨h1, h2, rfl⟩ | ⟨h1, h2, rfl⟩ | ⟨rfl, rfl⟩
  · exact ⟨rfl, rfl⟩
  · exact ⟨rfl, mem [1, 2] (by simp; omega)⟩
  · exact ⟨rfl, mem [3, 4] (by simp; omega)⟩
  · exact ⟨rfl, mem [5, 6, 7] (by simp; omega)⟩
  · exact ⟨rfl, rfl⟩

theorem c03_nil_of_rowOf {α} [DecidableEq α] {K : MetK} {P : Prms α} {data : List (Hit α)} {ids : List Int}
    {t : Table} (h : ∀ r ∈ t, RowOf K P data ids r ∧ 0 ≤ r.okta ∧ r.okta ≤ 8) :
    Spec.c03 P.t0 P.t8 data ids t = [] := by
  apply foldl_nil_of
  intro r hr
  obtain ⟨f, o0, o8⟩ := h r hr
  obtain ⟨p, hp, hcode⟩ := mkCode_post _ _ _ f.code
  obtain ⟨pl, pc⟩ := okta2code_prefix r.okta o0 o8 p hp
  have f1 : r.nHits = Spec.distinctMeas (members data ids r.cid) :=
    f.nHits.trans (C03_nhits_distinct data ids r.cid)
  have f2 : maxHits data = Spec.distinctMeas data := C03_M_distinct data
  simp only [List.nil_append, List.append_eq_nil_iff, ite_eq_left_iff, reduceCtorEq, imp_false, not_not,
    ← f1, ← f2]
  refine ⟨⟨⟨trivial, ?_⟩, oktaOf_post f.okta⟩, ?_⟩
  · rw [← f.perc]; exact close_refl _
  · rw [hcode, code_take3 p _ pl]; exact pc

/-- The base has to be inside `[0, 10^5)`: the code-floor clause only accepts three-digit codes. -/
theorem c04_nil_of_rowOf {α} [DecidableEq α] {K : MetK} {P : Prms α} {data : List (Hit α)} {ids : List Int}
    {t : Table} (hs : t.Pairwise (fun a b => a.base ≤ b.base))
    (h : ∀ r ∈ t, RowOf K P data ids r ∧
      (minRat ((members data ids r.cid).filterMap (·.height)) ≤ r.base ∧
        r.base ≤ maxRat ((members data ids r.cid).filterMap (·.height))) ∧
      (0 ≤ r.okta ∧ r.okta ≤ 8) ∧ (0 ≤ r.base ∧ r.base < 100000)) :
    Spec.c04 data ids t = [] := by
  have hsorted : sortedRat (t.map (·.base)) = true := by
    rw [sortedRat_iff, List.pairwise_map]; exact hs
  unfold Spec.c04
  rw [if_pos hsorted, List.nil_append]
  apply foldl_nil_of
  intro r hrt
  obtain ⟨f, ⟨b1, b2⟩, ⟨o0, o8⟩, ⟨g0, g1⟩⟩ := h r hrt
  obtain ⟨p, hp, hcode⟩ := mkCode_post _ _ _ f.code
  obtain ⟨pl, _⟩ := okta2code_prefix r.okta o0 o8 p hp
  simp only [List.nil_append, List.append_eq_nil_iff, ite_eq_left_iff, reduceCtorEq, imp_false, not_not,
    Bool.and_eq_true, decide_eq_true_eq]
  refine ⟨⟨⟨⟨⟨⟨⟨b1, b2⟩, f.hmin, f.hmax⟩, ?thickness⟩, ?mean⟩, ?std⟩, f.fluff_nonneg⟩, ?codeFloor⟩
  case thickness => rw [← f.hmax, ← f.hmin, ← f.thick]; exact close_refl _
  case mean => rw [← f.mean]; exact close_refl _
  case std =>
    rw [f.var]
    cases varRat ((members data ids r.cid).filterMap (·.height)) with
    | none => rfl
    | some v => exact if_pos (close_refl v)
  case codeFloor => rw [hcode, code_drop3 p _ pl]; exact spec_c18height_sound r.base g0 g1

end Ampy
