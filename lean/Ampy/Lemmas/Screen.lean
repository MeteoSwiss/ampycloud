import Ampy.Model.Screen
/-!
Behind C15 and C10.  `screen_cases` walks the cascade of `screen` once: an argument is on the documented list and
refused with an `AmpycloudError` (the same one for the `bare` frame), or it is a complete frame with consistent rows,
and then `screen_frame_ok` says what is returned.  `RawFrame.WF` is needed by `C15_idempotent` only.
-/
namespace Ampy

structure RawFrame.WF {α} (f : RawFrame α) : Prop where
  ceilo : ∀ c, f.ceilo = some c → c.cells.length = f.nrows
  dt : ∀ c, f.dt = some c → c.cells.length = f.nrows
  height : ∀ c, f.height = some c → c.cells.length = f.nrows
  type : ∀ c, f.type = some c → c.cells.length = f.nrows
  index : f.index.length = f.nrows

/-- The documented refusal conditions on the (coerced) rows. -/
def BadRows {α} (rows : List (Hit α)) : Prop :=
  ¬ rows.Nodup ∨
  (∃ a ∈ rows, ∃ b ∈ rows, a.ceilo = b.ceilo ∧ a.dt = b.dt ∧ a.type = 0 ∧ b.type ≠ 0) ∨
  (∃ a ∈ rows, ∃ b ∈ rows, a.ceilo = b.ceilo ∧ a.dt = b.dt ∧ a.type = -1 ∧ b.type ≠ -1)

/-- The documented list: not a DataFrame, empty, a required column missing, duplicated rows, a
(ceilometer, time) carrying both a type-0 and a non-0 hit, or both a VV and a non-VV hit. -/
def Rejected {α} : PyArg α → Prop
  | .notFrame => True
  | .frame f =>
    f.nrows = 0 ∨ f.ceilo = none ∨ f.dt = none ∨ f.height = none ∨ f.type = none ∨
    ∃ c d h t, f.ceilo = some c ∧ f.dt = some d ∧ f.height = some h ∧ f.type = some t ∧
      BadRows (zipRows c.cells d.cells h.cells t.cells)

theorem hasDup_iff {α} [DecidableEq α] (rows : List (Hit α)) : hasDup rows = true ↔ ¬ rows.Nodup := by
  induction rows with
  | nil => simp [hasDup]
  | cons h t ih =>
    simp only [hasDup, Bool.or_eq_true, List.contains_iff_mem, ih, List.nodup_cons]
    by_cases hm : h ∈ t <;> simp [hm]

theorem coincident_iff {α} [DecidableEq α] (k : Int) (rows : List (Hit α)) :
    coincident k rows = true ↔
      ∃ a ∈ rows, ∃ b ∈ rows, a.ceilo = b.ceilo ∧ a.dt = b.dt ∧ a.type = k ∧ b.type ≠ k := by
  unfold coincident
  simp only [List.any_eq_true, Bool.and_eq_true, beq_iff_eq, bne_iff_ne, ne_eq]
  constructor
  · rintro ⟨a, ha, hk, b, hb, ⟨hbk, hc⟩, hd⟩
    exact ⟨a, ha, b, hb, hc, hd, hk, hbk⟩
  · rintro ⟨a, ha, b, hb, hc, hd, hk, hbk⟩
    exact ⟨a, ha, hk, b, hb, ⟨hbk, hc⟩, hd⟩

theorem badRows_iff {α} [DecidableEq α] (rows : List (Hit α)) :
    BadRows rows ↔ (hasDup rows = true ∨ coincident 0 rows = true ∨ coincident (-1) rows = true) := by
  unfold BadRows
  rw [hasDup_iff, coincident_iff, coincident_iff]

def colWarnings {α} (f : RawFrame α) (c : Col α) (d : Col Rat) (h : Col (Option Rat)) (t : Col Int) : List Warn :=
  (if c.exact then [] else [Warn.dtype "ceilo"]) ++ (if d.exact then [] else [Warn.dtype "dt"]) ++
    (if h.exact then [] else [Warn.dtype "height"]) ++ (if t.exact then [] else [Warn.dtype "type"]) ++
    f.extra.map Warn.superfluous

/-- The frame without what `runFrom` does not read. -/
def bare {α} (f : RawFrame α) : RawFrame α :=
  { nrows := f.nrows, index := [], extra := []
    ceilo := f.ceilo.map fun c => ⟨true, c.cells⟩
    dt := f.dt.map fun c => ⟨true, c.cells⟩
    height := f.height.map fun c => ⟨true, c.cells⟩
    type := f.type.map fun c => ⟨true, c.cells⟩ }

structure Complete {α} (f : RawFrame α) where
  ceilo : Col α
  dt : Col Rat
  height : Col (Option Rat)
  type : Col Int
  nrows_ne : f.nrows ≠ 0
  ceilo_eq : f.ceilo = some ceilo
  dt_eq : f.dt = some dt
  height_eq : f.height = some height
  type_eq : f.type = some type

def Complete.rows {α} {f : RawFrame α} (g : Complete f) : List (Hit α) :=
  zipRows g.ceilo.cells g.dt.cells g.height.cells g.type.cells

def Complete.bare {α} {f : RawFrame α} (g : Complete f) : Complete (bare f) where
  ceilo := ⟨true, g.ceilo.cells⟩
  dt := ⟨true, g.dt.cells⟩
  height := ⟨true, g.height.cells⟩
  type := ⟨true, g.type.cells⟩
  nrows_ne := g.nrows_ne
  ceilo_eq := by rw [Ampy.bare, g.ceilo_eq]; rfl
  dt_eq := by rw [Ampy.bare, g.dt_eq]; rfl
  height_eq := by rw [Ampy.bare, g.height_eq]; rfl
  type_eq := by rw [Ampy.bare, g.type_eq]; rfl

theorem rejected_frame_iff {α} {f : RawFrame α} (g : Complete f) : Rejected (.frame f) ↔ BadRows g.rows := by
  simp only [Rejected, g.nrows_ne, g.ceilo_eq, g.dt_eq, g.height_eq, g.type_eq, false_or, reduceCtorEq,
    Option.some.injEq]
  constructor
  · rintro ⟨_, _, _, _, rfl, rfl, rfl, rfl, hb⟩
    exact hb
  · exact fun hb => ⟨_, _, _, _, rfl, rfl, rfl, rfl, hb⟩

section
variable {α : Type} [DecidableEq α] {f : RawFrame α}

theorem screen_frame_ok (g : Complete f) (hb : ¬ BadRows g.rows) :
    screen (.frame f) = .ok (⟨f.index, g.rows⟩,
      colWarnings f g.ceilo g.dt g.height g.type ++ heightWarnings g.rows) := by
  rw [badRows_iff, not_or, not_or] at hb
  unfold Complete.rows at hb ⊢
  simp only [screen, g.nrows_ne, g.ceilo_eq, g.dt_eq, g.height_eq, g.type_eq, hb.1, hb.2.1, hb.2.2, if_false,
    colWarnings]
  rfl

/-- The first of the three tests that fails gives the message: it depends on the rows only. -/
theorem screen_frame_bad (g : Complete f) (hb : BadRows g.rows) :
    ∃ why, screen (.frame f) = .error (.ampy why) ∧ screen (.frame (bare f)) = .error (.ampy why) := by
  rw [badRows_iff] at hb
  simp only [screen, g.nrows_ne, g.ceilo_eq, g.dt_eq, g.height_eq, g.type_eq, g.bare.ceilo_eq, g.bare.dt_eq,
    g.bare.height_eq, g.bare.type_eq, show (bare f).nrows = f.nrows from rfl, if_false]
  change ∃ why, (if hasDup g.rows = true then _ else _) = _ ∧ (if hasDup g.rows = true then _ else _) = _
  by_cases h1 : hasDup g.rows = true
  · exact ⟨_, if_pos h1, if_pos h1⟩
  rw [if_neg h1, if_neg h1]
  change ∃ why, (if coincident 0 g.rows = true then _ else _) = _ ∧ (if coincident 0 g.rows = true then _ else _) = _
  by_cases h2 : coincident 0 g.rows = true
  · exact ⟨_, if_pos h2, if_pos h2⟩
  rw [if_neg h2, if_neg h2]
  have h3 := (hb.resolve_left h1).resolve_left h2
  exact ⟨_, if_pos h3, if_pos h3⟩

theorem screen_cases (arg : PyArg α) :
    (Rejected arg ∧ ∃ why, screen arg = .error (.ampy why) ∧
      ∀ f, arg = .frame f → screen (.frame (bare f)) = .error (.ampy why)) ∨
    ∃ f, ∃ g : Complete f, arg = .frame f ∧ ¬ BadRows g.rows := by
  cases arg with
  | notFrame => exact .inl ⟨trivial, _, rfl, fun _ e => nomatch e⟩
  | frame f =>
    obtain ⟨nrows, index, ceilo, dt, height, typ, extra⟩ := f
    by_cases hn : nrows = 0
    · exact .inl ⟨.inl hn, _, if_pos hn, fun _ e => by cases e; exact if_pos hn⟩
    rcases ceilo with _ | ceilo
    · exact .inl ⟨.inr (.inl rfl), _, if_neg hn, fun _ e => by cases e; exact if_neg hn⟩
    rcases dt with _ | dt
    · exact .inl ⟨.inr (.inr (.inl rfl)), _, if_neg hn, fun _ e => by cases e; exact if_neg hn⟩
    rcases height with _ | height
    · exact .inl ⟨.inr (.inr (.inr (.inl rfl))), _, if_neg hn, fun _ e => by cases e; exact if_neg hn⟩
    rcases typ with _ | typ
    · exact .inl ⟨.inr (.inr (.inr (.inr (.inl rfl)))), _, if_neg hn, fun _ e => by cases e; exact if_neg hn⟩
    let g : Complete ⟨nrows, index, some ceilo, some dt, some height, some typ, extra⟩ :=
      { ceilo := ceilo, dt := dt, height := height, type := typ, nrows_ne := hn, ceilo_eq := rfl, dt_eq := rfl,
        height_eq := rfl, type_eq := rfl }
    by_cases hb : BadRows g.rows
    · obtain ⟨why, e, e'⟩ := screen_frame_bad g hb
      exact .inl ⟨(rejected_frame_iff g).mpr hb, why, e, fun _ ef => by cases ef; exact e'⟩
    · exact .inr ⟨_, g, rfl, hb⟩

/-- `runFrom` reads a frame through `bare` only: two frames with the same `bare` have the same outcome. -/
theorem runFrom_bare (K : Kern) (P : PPrms α) (f : RawFrame α) :
    runFrom K P (.frame f) = runFrom K P (.frame (bare f)) := by
  rcases screen_cases (.frame f) with ⟨-, why, e, e'⟩ | ⟨f', g, hf, hb⟩
  · rw [runFrom, runFrom, e, e' f rfl]
  · cases hf
    rw [runFrom, runFrom, screen_frame_ok g hb, screen_frame_ok g.bare hb]
    rfl

end

theorem zipRows_self {α} (rows : List (Hit α)) :
    zipRows (rows.map (·.ceilo)) (rows.map (·.dt)) (rows.map (·.height)) (rows.map (·.type)) = rows := by
  induction rows with
  | nil => rfl
  | cons r rs ih =>
    unfold zipRows at ih ⊢
    simp only [List.map_cons, List.zip_cons_cons]
    rw [ih]

theorem length_zipRows {α} (c : List α) (d : List Rat) (h : List (Option Rat)) (t : List Int) (n : Nat)
    (hc : c.length = n) (hd : d.length = n) (hh : h.length = n) (ht : t.length = n) :
    (zipRows c d h t).length = n := by
  simp [zipRows, hc, hd, hh, ht]

theorem heightWarnings_not_col {α} (rows : List (Hit α)) :
    ∀ x ∈ heightWarnings rows, (∀ col, x ≠ .dtype col) ∧ (∀ col, x ≠ .superfluous col) := by
  intro x hx
  simp only [heightWarnings, List.mem_append, List.mem_ite_nil_right, List.mem_singleton] at hx
  rcases hx with (((⟨-, rfl⟩ | ⟨-, rfl⟩) | ⟨-, rfl⟩) | ⟨-, rfl⟩) | ⟨-, rfl⟩ <;>
    exact ⟨fun _ h => (nomatch h), fun _ h => (nomatch h)⟩

theorem screen_toArg {α} [DecidableEq α] (c : Checked α) (hn : c.rows.length ≠ 0) (hb : ¬ BadRows c.rows) :
    screen c.toArg = .ok (c, heightWarnings c.rows) := by
  have e := zipRows_self c.rows
  unfold Checked.toArg
  let g : Complete (α := α)
      { nrows := c.rows.length, index := c.index, ceilo := some ⟨true, c.rows.map (·.ceilo)⟩,
        dt := some ⟨true, c.rows.map (·.dt)⟩, height := some ⟨true, c.rows.map (·.height)⟩,
        type := some ⟨true, c.rows.map (·.type)⟩, extra := [] } :=
    { ceilo := _, dt := _, height := _, type := _, nrows_ne := hn, ceilo_eq := rfl, dt_eq := rfl, height_eq := rfl,
      type_eq := rfl }
  have hr : g.rows = c.rows := e
  rw [screen_frame_ok g (by rw [hr]; exact hb), hr]
  rfl

end Ampy
