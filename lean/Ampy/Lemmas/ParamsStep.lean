import Ampy.Lemmas.ParamsAdjust
/-!
`Sys.step` operation by operation without `let`s (`step_X_eq`, each by `rfl`), and the loop of `reset_prms(names)` up to
the first unknown name (`reset_prefix`), from which C12 reads both reset theorems.
-/
namespace Ampy

/-- The fold of the `reset (some names)` branch of `Sys.step` (the loop of `reset_prms(names)`).  The flag: an unknown
name was met; from then on nothing is reset. -/
def resetFold (d : PTree) (names : List String) (init : PTree × Bool) : PTree × Bool :=
  names.foldl (fun (acc : PTree × Bool) name =>
      if acc.2 then acc
      else
        match d.getPath [name], acc.1.setPath [name] (d.getPath [name] |>.getD (.leaf .none)) with
        | some _, some g' => (g', false)
        | _, _ => (acc.1, true)) init

theorem step_setGlobal_eq (s : Sys) (p : List String) (v : PTree) : s.step (.setGlobal p v) =
    match s.global.setPath p (v.deepcopy s.next).1, s.global.pathDictId p with
    | some g', some id =>
      ({ (s.syncAll g' [id]) with next := (v.deepcopy s.next).2, global := g' }, .ok [])
    | _, _ => (s, .crash "KeyError") := rfl

theorem step_setSnap_eq (s : Sys) (j : Nat) (p : List String) (v : PTree) : s.step (.setSnap j p v) =
    match s.snaps[j]? with
    | none => (s, .crash "IndexError")
    | some t =>
      match t.setPath p (v.deepcopy s.next).1, t.pathDictId p with
      | some t', some id =>
        ({ (s.syncAll t' [id]) with next := (v.deepcopy s.next).2,
                                     snaps := (s.syncAll t' [id]).snaps.set j t' }, .ok [])
      | _, _ => (s, .crash "KeyError") := rfl

theorem step_setCaller_eq (s : Sys) (j : Nat) (p : List String) (v : PTree) : s.step (.setCaller j p v) =
    match s.callers[j]? with
    | none => (s, .crash "IndexError")
    | some t =>
      match t.setPath p (v.deepcopy s.next).1, t.pathDictId p with
      | some t', some id =>
        ({ (s.syncAll t' [id]) with next := (v.deepcopy s.next).2,
                                     callers := (s.syncAll t' [id]).callers.set j t' }, .ok [])
      | _, _ => (s, .crash "KeyError") := rfl

theorem step_setPrms_eq (s : Sys) (y : PTree) : s.step (.setPrms y) =
    ({ (s.syncAll (adjustTree s.global (y.deepcopy s.next).1 []).1.tree s.global.dictIds) with
         next := (y.deepcopy s.next).2,
         global := (adjustTree s.global (y.deepcopy s.next).1 []).1.tree },
     if (adjustTree s.global (y.deepcopy s.next).1 []).1.crashed then .crash "AttributeError"
     else .ok (adjustTree s.global (y.deepcopy s.next).1 []).1.warnings) := rfl

theorem step_resetNone_eq (s : Sys) : s.step (.reset none) =
    ({ s with next := (s.defaults.deepcopy s.next).2, global := (s.defaults.deepcopy s.next).1 }, .ok []) := rfl

theorem step_resetSome_eq (s : Sys) (names : List String) : s.step (.reset (some names)) =
    match s.global.pathDictId ["_"] with
    | some gid =>
      ({ (s.syncAll (resetFold (s.defaults.deepcopy s.next).1 names (s.global, false)).1 [gid]) with
           next := (s.defaults.deepcopy s.next).2,
           global := (resetFold (s.defaults.deepcopy s.next).1 names (s.global, false)).1 },
       if (resetFold (s.defaults.deepcopy s.next).1 names (s.global, false)).2 then .ampyError else .ok [])
    | none => (s, .crash "TypeError") := rfl

theorem step_newCaller_eq (s : Sys) (t : PTree) : s.step (.newCaller t) =
    ({ s with next := (t.deepcopy s.next).2, callers := s.callers ++ [(t.deepcopy s.next).1] }, .ok []) := rfl

theorem step_constructNone_eq (s : Sys) : s.step (.construct none) =
    ({ s with next := (s.global.deepcopy s.next).2, snaps := s.snaps ++ [(s.global.deepcopy s.next).1] },
     .ok []) := rfl

theorem step_constructSome_eq (s : Sys) (i : Nat) : s.step (.construct (some i)) =
    match s.callers[i]? with
    | none => (s, .crash "IndexError")
    | some prm =>
      if (adjustTree (s.global.deepcopy s.next).1 prm []).1.crashed then
        ({ s with next := (s.global.deepcopy s.next).2 }, .crash "AttributeError")
      else
        ({ s with next := (s.global.deepcopy s.next).2,
                  snaps := s.snaps ++ [(adjustTree (s.global.deepcopy s.next).1 prm []).1.tree] },
         .ok (adjustTree (s.global.deepcopy s.next).1 prm []).1.warnings) := rfl

theorem resetFold_nil (d : PTree) (init : PTree × Bool) : resetFold d [] init = init := rfl

theorem resetFold_cons (d : PTree) (n : String) (names : List String) (init : PTree × Bool) :
    resetFold d (n :: names) init = resetFold d names (resetFold d [n] init) := rfl

theorem resetFold_append (d : PTree) (a b : List String) (init : PTree × Bool) :
    resetFold d (a ++ b) init = resetFold d b (resetFold d a init) := by
  simp [resetFold, List.foldl_append]

theorem resetFold_one (j gid : Nat) (des es : PEntries) (n : String) :
    resetFold (.dict j des) [n] (.dict gid es, false) =
      match des.lookup n with
      | some v => (.dict gid (es.set n v), false)
      | none => (.dict gid es, true) := by
  simp only [resetFold, List.foldl_cons, List.foldl_nil, PTree.getPath_dict, PTree.setPath_dict]
  cases des.lookup n <;> rfl

theorem resetFold_stopped (d : PTree) : ∀ (names : List String) (g : PTree), resetFold d names (g, true) = (g, true)
  | [], g => rfl
  | n :: names, g => by
    rw [resetFold_cons]
    have : resetFold d [n] (g, true) = (g, true) := by simp [resetFold]
    rw [this]; exact resetFold_stopped d names g

theorem resetFold_known (j gid : Nat) (des : PEntries) : ∀ (names : List String) (es : PEntries),
    (∀ n ∈ names, (des.lookup n).isSome = true) →
    ∃ es', resetFold (.dict j des) names (.dict gid es, false) = (.dict gid es', false) ∧
      (∀ n ∈ names, es'.lookup n = des.lookup n) ∧ (∀ k, k ∉ names → es'.lookup k = es.lookup k)
  | [], es, _ => ⟨es, rfl, by simp, by simp⟩
  | n :: names, es, h => by
    obtain ⟨v, hv⟩ := Option.isSome_iff_exists.1 (h n (by simp))
    obtain ⟨es', e1, e2, e3⟩ := resetFold_known j gid des names (es.set n v) (fun m hm => h m (by simp [hm]))
    refine ⟨es', ?_, ?_, ?_⟩
    · rw [resetFold_cons, resetFold_one, hv, e1]
    · intro m hm
      by_cases hmn : m ∈ names
      · exact e2 m hmn
      · have : m = n := by simpa [hmn] using hm
        subst this
        rw [e3 m hmn, PEntries.lookup_set, if_pos rfl, hv]
    · intro k hk
      simp only [List.mem_cons, not_or] at hk
      rw [e3 k hk.2, PEntries.lookup_set, if_neg (Ne.symm hk.1)]

/-- What `reset_prms(pre ++ rest)` has done after `pre`, every name of `pre` being known: the global is `.dict gid es`
and the loop goes on with `rest`, reading the fresh copy `.dict j des'` of the defaults. -/
structure ResetPrefix (s : Sys) (gid : Nat) (ges des : PEntries) (pre rest : List String) (j : Nat)
    (des' es : PEntries) : Prop where
  copy : ∀ k, (des'.lookup k).map PTree.strip = (des.lookup k).map PTree.strip
  reset : ∀ n ∈ pre, (es.lookup n).map PTree.strip = (des.lookup n).map PTree.strip
  kept : ∀ k, k ∉ pre → es.lookup k = ges.lookup k
  global : (s.step (.reset (some (pre ++ rest)))).1.global = (resetFold (.dict j des') rest (.dict gid es, false)).1
  out : (s.step (.reset (some (pre ++ rest)))).2 =
    if (resetFold (.dict j des') rest (.dict gid es, false)).2 then .ampyError else .ok []

theorem reset_prefix (s : Sys) (gid did : Nat) (ges des : PEntries) (pre rest : List String)
    (hg : s.global = .dict gid ges) (hd : s.defaults = .dict did des)
    (hn : ∀ n ∈ pre, (des.lookup n).isSome = true) : ∃ j des' es, ResetPrefix s gid ges des pre rest j des' es := by
  have hs : ∀ k, ((des.deepcopy (s.next + 1)).1.lookup k).map PTree.strip = (des.lookup k).map PTree.strip := by
    intro k
    rw [← PEntries.strip_lookup, ← PEntries.strip_lookup, PEntries.deepcopy_strip]
  have hn' : ∀ n ∈ pre, ((des.deepcopy (s.next + 1)).1.lookup n).isSome = true := by
    intro n hnn
    have h1 := hs n
    have h2 := hn n hnn
    cases h3 : (des.deepcopy (s.next + 1)).1.lookup n <;> cases h4 : des.lookup n <;> simp [h3, h4] at h1 h2 ⊢
  obtain ⟨es, e1, e2, e3⟩ := resetFold_known s.next gid (des.deepcopy (s.next + 1)).1 pre ges hn'
  have hstep : s.step (.reset (some (pre ++ rest))) = _ := step_resetSome_eq s (pre ++ rest)
  -- the global is a dict, so its tag is found; the copy of the defaults is a dict too
  simp only [hg, hd, PTree.pathDictId, PTree.deepcopy, resetFold_append, e1] at hstep
  exact ⟨s.next, _, es,
    { copy := hs
      reset := fun n hnn => by rw [e2 n hnn, hs]
      kept := e3
      global := congrArg (·.1.global) hstep
      out := congrArg (·.2) hstep }⟩

end Ampy
