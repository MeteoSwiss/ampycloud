import Ampy.Spec.Checks
import Ampy.Props.C01
import Ampy.Props.C02
import Batteries.Data.String.Lemmas
import Std.Data.String.ToNat

/-!
One lemma per clause of the run-time monitor predicates `Spec.c01` / `Spec.c02`, evaluated on a `TableOK` table
carrying the model's own message: each clause from the C01 / C02 theorem it mirrors.  The monitor recovers the
groups with `String.splitOn " "`, the legacy `splitOnAux` over byte positions; with that separator it steps
exactly as `splitAux (· == ' ')` (`splitOnAux_space`), for which Batteries has `splitToList_of_valid`, and
core's `List.splitOn_intercalate` does the rest.
-/
namespace Ampy

section Split
open String

/-- With the one-character separator `" "` the legacy `splitOnAux` takes exactly the steps of
`splitAux (· == ' ')`, at any positions: a matched space completes the separator at once, and stepping
back over it returns to where the match began. -/
theorem splitOnAux_space (s : String) (b i : Pos.Raw) (r : List String) :
    splitOnAux s " " b i 0 r = splitAux s (· == ' ') b i r := by
  have get_sp : Pos.Raw.get " " 0 = ' ' := by decide
  have end_sp : Pos.Raw.atEnd " " (Pos.Raw.next " " 0) = true := by decide
  fun_induction splitAux s (· == ' ') b i r with
  | case1 b i r h => unfold splitOnAux; rw [if_pos h]
  | case2 b i r h _ hp i' ih =>
    unfold splitOnAux
    rw [if_neg h, get_sp, if_pos hp]
    simp only [end_sp, if_true]
    have back : (Pos.Raw.next s i).unoffsetBy (Pos.Raw.next " " 0) = i := by
      rw [Pos.Raw.ext_iff]
      simp [Pos.Raw.next, beq_iff_eq.mp hp, get_sp]
    rw [back]
    exact ih
  | case3 b i r h _ hp ih =>
    unfold splitOnAux
    rw [if_neg h, get_sp, if_neg hp]
    exact ih

theorem splitOn_space (s : String) : s.splitOn " " = (s.toList.splitOn ' ').map String.ofList := by
  rw [List.splitOn_eq_splitOnP, ← splitToList_of_valid]
  exact splitOnAux_space s 0 0 []

theorem splitOn_intercalate (gs : List String) (hne : gs ≠ []) (hns : ∀ g ∈ gs, ' ' ∉ g.toList) :
    (" ".intercalate gs).splitOn " " = gs := by
  rw [splitOn_space]
  have : (" ".intercalate gs).toList = [' '].intercalate (gs.map String.toList) := by
    simp [String.toList_intercalate]
  rw [this, List.splitOn_intercalate]
  · simp
  · simpa using hns
  · simpa using hne

end Split

theorem isGroup_no_space {g : String} (h : IsGroup g) : ' ' ∉ g.toList := by
  obtain ⟨a, b, c, d₀, d₁, d₂, rfl, -, ha, hb, hc, h₀, h₁, h₂⟩ := h.chars
  have hd : ∀ d : Char, d.isDigit = true → ' ' ≠ d := fun d hd e => by
    rw [← e] at hd; exact absurd hd (by decide)
  simp only [String.toList_ofList, List.mem_cons, List.not_mem_nil, or_false, not_or]
  exact ⟨ha.symm, hb.symm, hc.symm, hd _ h₀, hd _ h₁, hd _ h₂⟩

theorem isGroupB_of_isGroup {g : String} (h : IsGroup g) : isGroupB g = true := by
  obtain ⟨a, b, c, d₀, d₁, d₂, rfl, hp, -, -, -, h₀, h₁, h₂⟩ := h.chars
  rw [isGroupB, String.toList_ofList]
  simp only [List.contains_iff_mem.mpr hp, h₀, h₁, h₂, Bool.and_self]

theorem groupsOf_msg (msa : Option Rat) (flag : Bool) (t : Table) (h : TableOK t) :
    Spec.groupsOf (metarMsg msa flag t.length t) = (reported msa t).map (·.code) := by
  unfold Spec.groupsOf
  by_cases hr : reported msa t = []
  · rw [metarMsg_eq msa flag h, if_pos hr, hr]
    split <;> rfl
  · rw [if_neg (not_or.mpr (msg_ne_fallback flag h hr)), metarMsg_eq msa flag h, if_neg hr]
    apply splitOn_intercalate _ (by simpa using hr)
    intro g hg
    obtain ⟨r, hr', rfl⟩ := List.mem_map.mp hg
    exact isGroup_no_space (reported_isGroup h hr')

theorem c02_clause_lowest_first (msa : Option Rat) (t : Table) (h : TableOK t) :
    Spec.headCodeIs (cloudBelow msa t).head? ((reported msa t).map (·.code)).head? = true := by
  by_cases hL : cloudBelow msa t = []
  · simp [hL, Spec.headCodeIs]
  · have := C02_lowest_first msa t h hL
    obtain ⟨x, xs, hx⟩ := List.exists_cons_of_ne_nil hL
    rw [hx] at this ⊢
    simp only [List.head?_cons] at this ⊢
    simp [Spec.headCodeIs, List.head?_map, this]

theorem c02_clause_ceiling (msa : Option Rat) (t : Table) (h : TableOK t) :
    Spec.containsCode (t.filter fun r => decide (r.okta ≥ 5) && belowMsa msa r.base).head?
      ((reported msa t).map (·.code)) = true := by
  cases hc : (t.filter fun r => decide (r.okta ≥ 5) && belowMsa msa r.base).head? with
  | none => rfl
  | some r =>
    have := C02_ceiling msa t h r hc
    simp only [Spec.containsCode, List.contains_eq_mem, decide_eq_true_eq]
    exact List.mem_map.mpr ⟨r, this, rfl⟩

theorem c02_clause_layer_code (msa : Option Rat) (t : Table) :
    ((reported msa t).map (·.code)).all (fun g => t.any (·.code == g)) = true := by
  simp only [List.all_eq_true, List.any_eq_true]
  intro g hg
  obtain ⟨r, hr, rfl⟩ := List.mem_map.mp hg
  exact ⟨r, (List.mem_filter.mp hr).1, by simp⟩

theorem c02_clause_ncd (msa : Option Rat) (flag : Bool) (t : Table) (h : TableOK t) :
    ((metarMsg msa flag t.length t == "NCD") ==
      (t.all (fun r => decide (r.okta ≤ 0)) && !flag)) = true := by
  have := C02_NCD_iff msa flag t h
  rw [beq_iff_eq, Bool.eq_iff_iff]
  simp only [beq_iff_eq, this, Bool.and_eq_true, List.all_eq_true, decide_eq_true_eq,
    Bool.not_eq_true']

theorem c02_clause_nsc (msa : Option Rat) (flag : Bool) (t : Table) (h : TableOK t) :
    ((metarMsg msa flag t.length t == "NSC") ==
      ((cloudBelow msa t).isEmpty &&
        ((t.any fun r => decide (r.okta ≥ 1) && !(belowMsa msa r.base)) || flag))) = true := by
  rw [beq_iff_eq, Bool.eq_iff_iff]
  have e : metarMsg msa flag t.length t = "NSC" ↔ _ := msg_fallback_iff msa flag h true
  simp only [beq_iff_eq, e, reported_nil_iff h, Bool.and_eq_true, List.isEmpty_iff]

theorem digitsVal_ofList {cs : List Char} (hne : cs ≠ []) (hd : ∀ c ∈ cs, c.isDigit = true) :
    Spec.digitsVal (String.ofList cs) = some (Nat.ofDigitChars 10 cs 0) := by
  have hnat : (String.ofList cs).isNat = true :=
    String.isNat_of_isDigit (by simpa using hne) (by simpa using hd)
  have hf : cs.filter (· != '_') = cs :=
    List.filter_eq_self.mpr fun c hc => bne_iff_ne.mpr (by rintro rfl; exact absurd (hd _ hc) (by decide))
  unfold Spec.digitsVal
  rw [String.toNat?_eq_some_ofDigitChars hnat, String.toList_ofList, hf, if_pos]
  simp only [Bool.and_eq_true, List.all_eq_true, decide_eq_true_eq, String.length_ofList]
  exact ⟨hd, List.length_pos_iff.mpr hne⟩

theorem digitsVal_padNat3 {k : Nat} (hk : k < 1000) : Spec.digitsVal (padNat3 k) = some k := by
  obtain ⟨a, b, c, ha, hb, hc, rfl, e⟩ := padNat3_digits hk
  rw [e, digitsVal_ofList (by simp)]
  · rw [Nat.ofDigitChars_cons_digitChar_of_lt_ten ha, Nat.ofDigitChars_cons_digitChar_of_lt_ten hb,
      Nat.ofDigitChars_cons_digitChar_of_lt_ten hc, Nat.ofDigitChars_nil]
    congr 1
    omega
  · simp [Nat.isDigit_digitChar, ha, hb, hc]

theorem prefix_length {p : String} (hp : p ∈ ["FEW", "SCT", "BKN", "OVC"]) : p.toList.length = 3 := by
  obtain ⟨a, b, c, rfl, -⟩ := prefix_chars hp
  rw [String.toList_ofList]
  rfl

theorem reported_digitsVal {msa : Option Rat} {t : Table} (h : TableOK t) {r : Row}
    (hr : r ∈ reported msa t) :
    Spec.digitsVal (String.ofList (r.code.toList.drop 3)) = some (heightHundreds r.base).toNat := by
  obtain ⟨p, _, hp, hc⟩ := C01_prefix msa t h r hr
  have hb := h.bases r (reported_facts h hr).1
  have hh := hh_range hb.1 hb.2
  rw [hc, code_drop3 _ _ (prefix_length hp)]
  show Spec.digitsVal (fmt03 (heightHundreds r.base)) = _
  rw [fmt03, if_pos hh.1, digitsVal_padNat3 (by omega)]

theorem c01_clause_height_order (msa : Option Rat) (t : Table) (h : TableOK t) :
    sortedRat ((((reported msa t).map (·.code)).filterMap fun g =>
      Spec.digitsVal (String.ofList (g.toList.drop 3))).map fun (n : Nat) => (n : Rat)) = true := by
  have hfm : ((reported msa t).map (·.code)).filterMap (fun g =>
      Spec.digitsVal (String.ofList (g.toList.drop 3))) =
      (reported msa t).map (fun r => (heightHundreds r.base).toNat) := by
    rw [List.filterMap_map, ← List.filterMap_eq_map]
    refine List.filterMap_congr fun r hr => ?_
    rw [Function.comp_apply, Function.comp_apply]
    exact reported_digitsVal h hr
  rw [hfm, sortedRat_iff, List.map_map, List.pairwise_map]
  exact (C01_order msa t h).imp fun hab => Nat.cast_le.mpr (Int.toNat_le_toNat hab.2)

theorem c01_clause_grammar (msa : Option Rat) (flag : Bool) (t : Table) (h : TableOK t) :
    (metarMsg msa flag t.length t == "NCD" || metarMsg msa flag t.length t == "NSC" ||
      (decide (1 ≤ ((reported msa t).map (·.code)).length) &&
        decide (((reported msa t).map (·.code)).length ≤ 3) &&
        ((reported msa t).map (·.code)).all isGroupB)) = true := by
  by_cases hr : reported msa t = []
  · rw [metarMsg_eq msa flag h, if_pos hr]
    split <;> rfl
  · have hl := reported_length_le msa h
    have h1 : 1 ≤ (reported msa t).length := List.length_pos_iff.mpr hr
    have hall : ((reported msa t).map (·.code)).all isGroupB = true := by
      simp only [List.all_eq_true]
      intro g hg
      obtain ⟨r, hr', rfl⟩ := List.mem_map.mp hg
      exact isGroupB_of_isGroup (reported_isGroup h hr')
    simp [hall, hl, h1]

theorem c01_prefix_ge {msa : Option Rat} {t : Table} (h : TableOK t) (i : Nat) (ps : List String)
    (hps : ∀ r ∈ reported msa t, r.okta ≥ 2 * (i : Int) + 1 → ∀ p,
      okta2code (.int r.okta) = .ok (some p) → p ∈ ps) :
    Spec.prefixIn ((reported msa t).map (·.code))[i]? ps = true := by
  rw [List.getElem?_map]
  cases hi : (reported msa t)[i]? with
  | none => rfl
  | some r =>
    obtain ⟨hlt, hget⟩ := List.getElem?_eq_some_iff.mp hi
    have hmem : r ∈ reported msa t := hget ▸ List.getElem_mem hlt
    have hok := C01_135 msa t h i hlt
    rw [hget] at hok
    obtain ⟨p, hp1, hp2, hc⟩ := C01_prefix msa t h r hmem
    simp only [Option.map_some, Spec.prefixIn, List.contains_eq_mem, decide_eq_true_eq]
    rw [hc, code_take3 _ _ (prefix_length hp2)]
    exact hps r hmem hok p hp1

theorem okta2code_rank {o : Int} (h0 : 0 ≤ o) (h8 : o ≤ 8) {p : String} (hp : okta2code (.int o) = .ok (some p)) :
    (3 ≤ o → p ∈ ["SCT", "BKN", "OVC"]) ∧ (5 ≤ o → p ∈ ["BKN", "OVC"]) := by
  obtain ⟨p', hp', ht⟩ := okta2code_table h0 h8
  cases hp.symm.trans hp'
  rcases ht with ⟨_, rfl⟩ | ⟨_, _, rfl⟩ | ⟨_, _, rfl⟩ | ⟨_, _, rfl⟩ | ⟨_, rfl⟩
  · exact ⟨fun _ => by omega, fun _ => by omega⟩
  · exact ⟨fun _ => by omega, fun _ => by omega⟩
  · exact ⟨fun _ => by simp, fun _ => by omega⟩
  · exact ⟨fun _ => by simp, fun _ => by simp⟩
  · exact ⟨fun _ => by simp, fun _ => by simp⟩

theorem c01_clause_second (msa : Option Rat) (t : Table) (h : TableOK t) :
    Spec.prefixIn ((reported msa t).map (·.code))[1]? ["SCT", "BKN", "OVC"] = true :=
  c01_prefix_ge h 1 _ fun r hr hok _ hp =>
    (okta2code_rank (h.oktas r (reported_facts h hr).1).1 (h.oktas r (reported_facts h hr).1).2 hp).1 (by omega)

theorem c01_clause_third (msa : Option Rat) (t : Table) (h : TableOK t) :
    Spec.prefixIn ((reported msa t).map (·.code))[2]? ["BKN", "OVC"] = true :=
  c01_prefix_ge h 2 _ fun r hr hok _ hp =>
    (okta2code_rank (h.oktas r (reported_facts h hr).1).1 (h.oktas r (reported_facts h hr).1).2 hp).2 (by omega)

theorem c01_clause_listed (msa : Option Rat) (t : Table) (h : TableOK t) :
    (((reported msa t).map (·.code)).all fun g =>
      t.any fun r => r.code == g && decide (r.okta ≥ 1) && belowMsa msa r.base) = true := by
  simp only [List.all_eq_true, List.any_eq_true]
  intro g hg
  obtain ⟨r, hr, rfl⟩ := List.mem_map.mp hg
  obtain ⟨hm, _, hb, ho⟩ := reported_facts h hr
  exact ⟨r, hm, by simp [hb, ho]⟩

end Ampy
