import Ampy.Lemmas.Gmm
import Ampy.Lemmas.Ids
/-!
`find_layers`. An iteration of its loop is the decision for the group (`layerDecide`, independent of the loop state)
followed by the write-back of the sub-layer ids (`layerWrite`, pure). So the `ncomp` column records the decisions
(`layerIds_decisions`), and two invariants of the write-back describe the id column. `LInv`: every id written so far is
`off + 10·ind + c` on a row of group number `ind`; hence `layerIds_exact`, `layers_refine_groups`. `WInv`, kept only
together with `LInv` and when each group is listed once: the rows of a processed group carry what was decided for it;
hence `ncomp_layers`.
-/
namespace Ampy

theorem foldl_max_ge (l : List Int) : ∀ (a : Int), a ≤ l.foldl max a ∧ ∀ g ∈ l, g ≤ l.foldl max a := by
  induction l with
  | nil => intro a; simp
  | cons x t ih =>
    intro a
    rw [List.foldl_cons]
    obtain ⟨h1, h2⟩ := ih (max a x)
    refine ⟨by omega, ?_⟩
    intro g hg
    rcases List.mem_cons.mp hg with rfl | hg
    · omega
    · exact h2 g hg

theorem lidOffset_gt (gids : List Int) : ∀ g ∈ gids, g < lidOffset gids := by
  intro g hg
  unfold lidOffset maxId
  obtain ⟨h1, h2⟩ := foldl_max_ge gids (-1)
  have := h2 g hg
  omega

theorem lidOffset_ge (gids : List Int) : 100 ≤ lidOffset gids := by
  unfold lidOffset
  exact le_max_left _ _

theorem le_subId (off : Int) (ind c : Nat) : off ≤ off + 10 * (ind : Int) + (c : Int) := by omega

theorem subId_inj {off : Int} {i₁ i₂ c₁ c₂ : Nat} (h₁ : c₁ < 10) (h₂ : c₂ < 10)
    (h : off + 10 * (i₁ : Int) + (c₁ : Int) = off + 10 * (i₂ : Int) + (c₂ : Int)) : i₁ = i₂ := by omega

theorem writeIds_length (off : Int) (ind : Nat) (lids : List (Option Int)) (assign : List (Nat × Nat)) :
    (writeIds off ind lids assign).length = lids.length := by
  simp [writeIds]

theorem writeIds_getElem?_cases (off : Int) (ind : Nat) (lids : List (Option Int)) (assign : List (Nat × Nat))
    (i : Nat) (x : Option Int) (h : (writeIds off ind lids assign)[i]? = some x) :
    (∃ p ∈ assign, p.1 = i ∧ x = some (off + 10 * (ind : Int) + (p.2 : Int))) ∨
    ((∀ p ∈ assign, p.1 ≠ i) ∧ lids[i]? = some x) := by
  obtain ⟨hjl, hx⟩ := (getElem?_map_range_iff _ _ _ _).mp h
  split at hx
  next a k hf => exact .inl ⟨(a, k), List.mem_of_find?_eq_some hf, by simpa using List.find?_some hf, hx⟩
  next hf =>
    rw [List.find?_eq_none] at hf
    refine .inr ⟨fun p hp => by simpa using hf p hp, ?_⟩
    rw [hx, List.getD_eq_getElem?_getD, List.getElem?_eq_getElem hjl]
    rfl

theorem writeIds_of_not_mem (off : Int) (ind : Nat) (lids : List (Option Int)) (assign : List (Nat × Nat))
    (i : Nat) (h : ∀ p ∈ assign, p.1 ≠ i) : (writeIds off ind lids assign)[i]? = lids[i]? := by
  by_cases hi : i < lids.length
  · have hi' : i < (writeIds off ind lids assign).length := by rw [writeIds_length]; exact hi
    rcases writeIds_getElem?_cases off ind lids assign i _ (List.getElem?_eq_getElem hi') with
      ⟨p, hp, hpi, _⟩ | ⟨_, h2⟩
    · exact absurd hpi (h p hp)
    · rw [List.getElem?_eq_getElem hi', h2]
  · rw [List.getElem?_eq_none (by rw [writeIds_length]; omega), List.getElem?_eq_none (by omega)]

theorem writeIds_of_mem (off : Int) (ind : Nat) (lids : List (Option Int)) (pos ids : List Nat)
    (hnd : pos.Nodup) (j : Nat) (h1 : j < pos.length) (h2 : j < ids.length) (hl : pos[j] < lids.length) :
    (writeIds off ind lids (pos.zip ids))[pos[j]]? = some (some (off + 10 * (ind : Int) + (ids[j] : Int))) := by
  unfold writeIds
  rw [List.getElem?_map, List.getElem?_range hl, Option.map_some, find?_zip_nodup pos ids hnd j h1 h2]

theorem mem_grpPos {α} (K : Kern) (data : List (Hit α)) (gids : List Int) (cid : Int) (i : Nat) :
    i ∈ grpPos K data gids cid ↔ i ∈ K.dtOrder (data.map (·.dt)) ∧ gids[i]? = some cid := by
  unfold grpPos
  rw [List.mem_filter]
  simp

theorem grpPos_nodup {α} (K : Kern) (q : Rat) (hK : KernOK K q) (data : List (Hit α)) (gids : List Int)
    (cid : Int) : (grpPos K data gids cid).Nodup := by
  unfold grpPos
  apply List.Nodup.filter
  exact (isPermOf_perm (hK.met.dtOrder_perm _)).nodup_iff.mpr List.nodup_range

theorem mem_grpPos_of {α} (K : Kern) (q : Rat) (hK : KernOK K q) (data : List (Hit α)) (gids : List Int)
    (hl : gids.length = data.length) (cid : Int) (i : Nat) (h : gids[i]? = some cid) :
    i ∈ grpPos K data gids cid := by
  rw [mem_grpPos]
  refine ⟨isPermOf_mem (hK.met.dtOrder_perm _) ?_, h⟩
  have := (List.getElem?_eq_some_iff.mp h).1
  rw [List.length_map]
  omega

theorem IdsExact.height_of_nonneg {α} {data : List (Hit α)} {gids : List Int} (hg : IdsExact data gids) (i : Nat)
    (c : Int) (hc : gids[i]? = some c) (h0 : 0 ≤ c) : ∃ y, (data[i]?).bind (·.height) = some y := by
  obtain ⟨hi, rfl⟩ := List.getElem?_eq_some_iff.mp hc
  have hd : i < data.length := hg.len ▸ hi
  obtain ⟨y, hy⟩ := Option.ne_none_iff_exists'.mp (hg.toOK.valid _ (zip_getElem_mem data gids i hd hi) h0)
  exact ⟨y, (getElem?_bind_height data i y).mpr ⟨hd, hy⟩⟩

theorem grp_cid_nonneg {α} (K : Kern) {data : List (Hit α)} {gids : List Int} (hg : IdsExact data gids)
    (cid : Int) (h : groupHeights K data gids cid ≠ []) : 0 ≤ cid := by
  obtain ⟨y, hy⟩ := List.exists_mem_of_ne_nil _ h
  rw [groupHeights_eq] at hy
  obtain ⟨i, hi, hiy⟩ := List.mem_filterMap.mp hy
  obtain ⟨hd, hh⟩ := (getElem?_bind_height data i y).mp hiy
  obtain ⟨hig, hci⟩ := List.getElem?_eq_some_iff.mp ((mem_grpPos K data gids cid i).mp hi).2
  exact hci ▸ (hg.valid (data[i], gids[i]) (zip_getElem_mem data gids i hd hig)).1 (by simp [hh])

theorem groupHeights_length {α} (K : Kern) {data : List (Hit α)} {gids : List Int} (hg : IdsExact data gids)
    (cid : Int) (h0 : 0 ≤ cid) :
    (groupHeights K data gids cid).length = (grpPos K data gids cid).length := by
  rw [groupHeights_eq, List.length_filterMap_eq_countP, List.countP_eq_length]
  intro i hi
  obtain ⟨y, hy⟩ := hg.height_of_nonneg i cid ((mem_grpPos K data gids cid i).mp hi).2 h0
  rw [hy]
  rfl

theorem layerDecide_sat {α} (K : Kern) (P : PPrms α) (data : List (Hit α)) (gids : List Int) (g : Row) :
    Sat (layerDecide K P data gids g)
      (fun o => ∀ r, o = some r → 30 ≤ (groupHeights K data gids g.cid).length ∧
        ∃ minSep, minSepFor P.toPrms g.base = .ok minSep ∧
          ncompFromGmm K P (groupHeights K data gids g.cid)
            (min ((groupHeights K data gids g.cid).eraseDups).length 3) minSep = .ok r)
      (fun e => 30 ≤ (groupHeights K data gids g.cid).length ∧
        (¬ SepShape P.toPrms ∨ ∃ minSep,
          ncompFromGmm K P (groupHeights K data gids g.cid)
            (min ((groupHeights K data gids g.cid).eraseDups).length 3) minSep = .error e)) := by
  unfold layerDecide
  dsimp only
  split
  next => exact fun r h => nomatch h
  next hc =>
    have h30 : 30 ≤ (groupHeights K data gids g.cid).length := by
      simp only [Bool.or_eq_true, decide_eq_true_eq, not_or, not_lt] at hc
      exact hc.1.2
    refine Sat.bind (Sat.of_eq fun _ he => ⟨h30, .inl ((minSepFor_sat P.toPrms g.base).of_error he).1⟩)
      fun minSep hms => ?_
    refine Sat.bind (Sat.of_eq fun e h => ⟨h30, .inr ⟨minSep, h⟩⟩) fun r hr => ?_
    rintro _ ⟨⟩
    exact ⟨h30, minSep, hms, hr⟩

theorem groupHeights_gmm_domain {α} {K : Kern} {data : List (Hit α)} {gids : List Int} {cid : Int}
    (h30 : 30 ≤ (groupHeights K data gids cid).length) :
    groupHeights K data gids cid ≠ [] ∧ 1 ≤ min ((groupHeights K data gids cid).eraseDups).length 3 := by
  have hne : groupHeights K data gids cid ≠ [] := fun h => by rw [h] at h30; exact absurd h30 (by decide)
  have := eraseDups_length_pos _ hne
  exact ⟨hne, by omega⟩

theorem layerDecide_error {α} (K : Kern) (P : PPrms α) (hK : KernOK K P.basePerc) (hP : PrmsOK P)
    (data : List (Hit α)) (gids : List Int) (g : Row) (e : AmpyErr) (h : layerDecide K P data gids g = .error e) :
    (e = .ampy "Cloud base calculation got an empty array" ∨ e = .other "AssertionError") ∧
      ¬ SelectedPopulated K P := by
  obtain ⟨h30, hs | ⟨minSep, he⟩⟩ := (layerDecide_sat K P data gids g).of_error h
  · exact absurd hP.sep hs
  · obtain ⟨hne, hm⟩ := groupHeights_gmm_domain h30
    have := ncompFromGmm_error K P hK hP _ _ minSep hne hm e he
    exact ⟨this.1, fun hA3 => this.2 (hA3 _ _)⟩

theorem splitIds_cases (o : Option (Nat × List Nat)) :
    (∃ n ids, 1 < n ∧ o = some (n, ids) ∧ splitIds o = some ids) ∨ (splitIds o = none ∧ ncompOf o ≤ 1) := by
  unfold splitIds ncompOf
  split
  · split
    · exact .inl ⟨_, _, ‹_›, rfl, rfl⟩
    · exact .inr ⟨rfl, Int.ofNat_le.mpr (Nat.le_of_not_gt ‹_›)⟩
  · exact .inr ⟨rfl, by decide⟩

theorem ncompOf_natCast {o : Option (Nat × List Nat)} {n : Nat} (h : (n : Int) = ncompOf o) : ∃ ids, o = some (n, ids) := by
  cases o with
  | none => exact absurd h (by simp only [ncompOf]; omega)
  | some r => exact ⟨r.2, by rw [Int.ofNat_inj.mp h]⟩

theorem layerWrite_fst_of_split {off : Int} {ind : Nat} {pos : List Nat} {o : Option (Nat × List Nat)}
    {st : List (Option Int) × List Int} {ids : List Nat} (h : splitIds o = some ids) :
    (layerWrite off ind pos o st).1 = writeIds off ind st.1 (pos.zip ids) := by
  unfold layerWrite
  rw [h]

theorem layerWrite_fst_of_none {off : Int} {ind : Nat} {pos : List Nat} {o : Option (Nat × List Nat)}
    {st : List (Option Int) × List Int} (h : splitIds o = none) : (layerWrite off ind pos o st).1 = st.1 := by
  unfold layerWrite
  rw [h]

theorem layerIds_induct {α} [DecidableEq α] (K : Kern) (P : PPrms α) (data : List (Hit α)) (gids : List Int)
    (groups : Table) (Inv : Nat → List (Option Int) × List Int → Prop) (h0 : Inv 0 (data.map (fun _ => none), []))
    (hstep : ∀ k st o (hk : k < groups.length), Inv k st → layerDecide K P data gids groups[k] = .ok o →
      Inv (k + 1) (layerWrite (lidOffset gids) k (grpPos K data gids groups[k].cid) o st)) :
    Sat (layerIds K P data gids groups)
      (fun r => ∃ l0, Inv groups.length (l0, r.2) ∧ r.1 = fillIds l0 gids)
      (fun e => ∃ g ∈ groups, layerDecide K P data gids g = .error e) := by
  rw [layerIds_eq]
  refine Sat.bind (Sat.foldlM_range (Inv := Inv) groups.length _ h0 fun k st hk hI => ?_) fun st h => ⟨st.1, h, rfl⟩
  unfold layerStep
  rw [List.getElem?_eq_getElem hk]
  exact Sat.bind (Sat.of_eq fun e he => ⟨_, List.getElem_mem hk, he⟩)
    fun o ho => hstep k st o hk hI ho

theorem layerIds_decisions {α} [DecidableEq α] (K : Kern) (P : PPrms α) (data : List (Hit α)) (gids : List Int)
    (groups : Table) :
    Sat (layerIds K P data gids groups)
      (fun r => List.Forall₂ (fun g c => ∃ o, layerDecide K P data gids g = .ok o ∧ c = ncompOf o) groups r.2)
      (fun e => ∃ g ∈ groups, layerDecide K P data gids g = .error e) := by
  refine (layerIds_induct K P data gids groups (fun k st => List.Forall₂
    (fun g c => ∃ o, layerDecide K P data gids g = .ok o ∧ c = ncompOf o) (groups.take k) st.2) (by simp)
    fun k st o hk hI ho => ?_).mono (fun r ⟨_, h, _⟩ => by rwa [List.take_length] at h) fun _ h => h
  rw [List.take_add_one, List.getElem?_eq_getElem hk]
  exact List.rel_append hI (.cons ⟨o, ho, rfl⟩ .nil)

theorem layerIds_ncomps_length {α} [DecidableEq α] (K : Kern) (P : PPrms α) (data : List (Hit α))
    (gids : List Int) (groups : Table) (lids ncomps : List Int)
    (h : layerIds K P data gids groups = .ok (lids, ncomps)) : ncomps.length = groups.length :=
  ((layerIds_decisions K P data gids groups).of_ok h).length_eq.symm

namespace Lay

/-- After `k` groups: one (optional) id per row, one `ncomp` entry per processed group, and every id written so far is
`off + 10·ind + c` with `c < 10`, on a row of group number `ind`, whose id is `≥ 0`. -/
structure LInv {α} (data : List (Hit α)) (gids : List Int) (groups : Table) (k : Nat)
    (st : List (Option Int) × List Int) : Prop where
  len : st.1.length = data.length
  nlen : st.2.length = k
  gen : ∀ (i : Nat) (v : Int), st.1[i]? = some (some v) → ∃ (ind c : Nat) (g : Row), ind < k ∧ groups[ind]? = some g ∧
    gids[i]? = some g.cid ∧ 0 ≤ g.cid ∧ c < 10 ∧ v = lidOffset gids + 10 * (ind : Int) + (c : Int)

theorem LInv_init {α} (data : List (Hit α)) (gids : List Int) (groups : Table) :
    LInv data gids groups 0 (data.map (fun _ => none), []) := by
  refine ⟨by simp, rfl, ?_⟩
  intro i v h
  simp only [List.getElem?_map] at h
  obtain ⟨_, _, h2⟩ := Option.map_eq_some_iff.mp h
  cases h2

theorem untouched {α} {data : List (Hit α)} {gids : List Int} {groups : Table} (hl : gids.length = data.length)
    (hcid : (groups.map (·.cid)).Nodup) {k : Nat} {st : List (Option Int) × List Int}
    (hI : LInv data gids groups k st) {g : Row} (hgk : groups[k]? = some g) (i : Nat)
    (hi : gids[i]? = some g.cid) : st.1[i]? = some none := by
  have hil : i < st.1.length := by
    have := (List.getElem?_eq_some_iff.mp hi).1
    rw [hI.len]
    omega
  rw [List.getElem?_eq_getElem hil]
  cases hv : st.1[i] with
  | none => rfl
  | some v =>
    have : st.1[i]? = some (some v) := by rw [List.getElem?_eq_getElem hil, hv]
    obtain ⟨ind, c, g', h1, h2, h3, _⟩ := hI.gen i v this
    rw [hi] at h3
    have := getElem?_inj_of_map_nodup hcid hgk h2 (Option.some.inj h3)
    omega

end Lay
open Lay

theorem LInv_write {α} (K : Kern) (P : PPrms α) (data : List (Hit α)) (hK : KernOK K P.basePerc)
    (gids : List Int) (groups : Table) (hg : IdsExact data gids) (k : Nat)
    (st : List (Option Int) × List Int) (hk : k < groups.length) (hI : LInv data gids groups k st)
    (o : Option (Nat × List Nat)) (ho : layerDecide K P data gids groups[k] = .ok o) :
    LInv data gids groups (k + 1) (layerWrite (lidOffset gids) k (grpPos K data gids groups[k].cid) o st) := by
  have hgk : groups[k]? = some groups[k] := List.getElem?_eq_getElem hk
  have hweak : ∀ (i : Nat) (v : Int), st.1[i]? = some (some v) → ∃ (ind c : Nat) (g : Row), ind < k + 1 ∧
      groups[ind]? = some g ∧ gids[i]? = some g.cid ∧ 0 ≤ g.cid ∧ c < 10 ∧
      v = lidOffset gids + 10 * (ind : Int) + (c : Int) := fun i v hv => by
    obtain ⟨ind, c, g, h1, h2⟩ := hI.gen i v hv
    exact ⟨ind, c, g, Nat.lt_succ_of_lt h1, h2⟩
  have hnlen : (layerWrite (lidOffset gids) k (grpPos K data gids groups[k].cid) o st).2.length = k + 1 := by
    show (st.2 ++ [ncompOf o]).length = k + 1
    rw [List.length_append, hI.nlen]
    rfl
  rcases splitIds_cases o with ⟨n, ids, _, rfl, hsp⟩ | ⟨hsp, _⟩
  · obtain ⟨h30, minSep, _, hgmm⟩ := (layerDecide_sat K P data gids groups[k]).of_ok ho _ rfl
    refine ⟨by rw [layerWrite_fst_of_split hsp, writeIds_length]; exact hI.len, hnlen, fun i v hv => ?_⟩
    rw [layerWrite_fst_of_split hsp] at hv
    rcases writeIds_getElem?_cases _ _ _ _ i _ hv with ⟨p, hp, hpi, hpv⟩ | ⟨_, hold⟩
    · -- the component ids of `ncomp_from_gmm` are below `ncomp_max ≤ 3`
      have hc := (ncompFromGmm_post K P hK _ _ _ _ _ hgmm).2.1 p.2 (List.of_mem_zip hp).2
      refine ⟨k, p.2, groups[k], Nat.lt_succ_self k, hgk, ?_, grp_cid_nonneg K hg _ (groupHeights_gmm_domain h30).1,
        by omega, Option.some.inj hpv⟩
      rw [← hpi]
      exact ((mem_grpPos K data gids _ _).mp (List.of_mem_zip hp).1).2
    · exact hweak i v hold
  · exact ⟨by rw [layerWrite_fst_of_none hsp]; exact hI.len, hnlen, by rw [layerWrite_fst_of_none hsp]; exact hweak⟩

/-- The rows `pos` of group number `ind` carry what the decision `o` prescribes: the sub-layer ids of a split, in the
order of `pos`, and none otherwise. -/
structure Written (off : Int) (ind : Nat) (pos : List Nat) (o : Option (Nat × List Nat)) (lids : List (Option Int)) :
    Prop where
  split : ∀ ids, splitIds o = some ids → ∀ j (hj : j < pos.length) (hj2 : j < ids.length),
    lids[pos[j]]? = some (some (off + 10 * (ind : Int) + (ids[j] : Int)))
  kept : splitIds o = none → ∀ i ∈ pos, lids[i]? = some none

theorem Written.congr {off : Int} {ind : Nat} {pos : List Nat} {o : Option (Nat × List Nat)}
    {lids lids' : List (Option Int)} (h : ∀ i ∈ pos, lids'[i]? = lids[i]?) (hw : Written off ind pos o lids) :
    Written off ind pos o lids' :=
  ⟨fun ids hs j hj hj2 => (h _ (List.getElem_mem hj)).trans (hw.split ids hs j hj hj2),
   fun hs i hi => (h i hi).trans (hw.kept hs i hi)⟩

/-- After `k` groups, the rows of each of them carry what was decided for it. -/
def WInv {α} (K : Kern) (P : PPrms α) (data : List (Hit α)) (gids : List Int) (groups : Table) (k : Nat)
    (st : List (Option Int) × List Int) : Prop :=
  ∀ ind g o, ind < k → groups[ind]? = some g → layerDecide K P data gids g = .ok o →
    Written (lidOffset gids) ind (grpPos K data gids g.cid) o st.1

/-- The decision for group `k` writes its rows, untouched so far, and no row of an earlier group. -/
theorem WInv_write {α} (K : Kern) (P : PPrms α) (data : List (Hit α)) (hK : KernOK K P.basePerc)
    (gids : List Int) (groups : Table) (hg : IdsExact data gids) (hcid : (groups.map (·.cid)).Nodup) (k : Nat)
    (st : List (Option Int) × List Int) (hk : k < groups.length) (hI : LInv data gids groups k st)
    (hW : WInv K P data gids groups k st) (o : Option (Nat × List Nat))
    (ho : layerDecide K P data gids groups[k] = .ok o) :
    WInv K P data gids groups (k + 1) (layerWrite (lidOffset gids) k (grpPos K data gids groups[k].cid) o st) := by
  have hgk : groups[k]? = some groups[k] := List.getElem?_eq_getElem hk
  have hpre := fun i hi => untouched hg.len hcid hI hgk i ((mem_grpPos K data gids _ i).mp hi).2
  intro ind g o' hind hgi ho'
  rcases Nat.lt_or_eq_of_le (Nat.le_of_lt_succ hind) with hlt | rfl
  · refine (hW ind g o' hlt hgi ho').congr fun i hi => ?_
    rcases splitIds_cases o with ⟨n, ids, _, rfl, hsp⟩ | ⟨hsp, _⟩
    · rw [layerWrite_fst_of_split hsp]
      refine writeIds_of_not_mem _ _ _ _ _ fun p hp hpi => ?_
      have h1 := ((mem_grpPos K data gids _ _).mp (List.of_mem_zip hp).1).2
      rw [hpi, ((mem_grpPos K data gids _ _).mp hi).2] at h1
      exact Nat.ne_of_lt hlt (getElem?_inj_of_map_nodup hcid hgi hgk (Option.some.inj h1))
    · rw [layerWrite_fst_of_none hsp]
  · obtain rfl : groups[ind] = g := Option.some.inj (hgk.symm.trans hgi)
    obtain rfl : o = o' := Except.ok.inj (ho.symm.trans ho')
    refine ⟨fun ids hsp j hj hj2 => ?_, fun hsp => by rw [layerWrite_fst_of_none hsp]; exact hpre⟩
    rw [layerWrite_fst_of_split hsp]
    apply writeIds_of_mem _ _ _ _ _ (grpPos_nodup K _ hK data gids _) j hj hj2
    have := (List.getElem?_eq_some_iff.mp ((mem_grpPos K data gids _ _).mp (List.getElem_mem hj)).2).1
    have hl : st.1.length = data.length := hI.len
    have := hg.len
    omega

theorem layerIds_linv {α} [DecidableEq α] (K : Kern) (P : PPrms α) (data : List (Hit α))
    (hK : KernOK K P.basePerc) (gids : List Int) (groups : Table) (hg : IdsExact data gids) (lids ncomps : List Int)
    (h : layerIds K P data gids groups = .ok (lids, ncomps)) :
    ∃ l0, LInv data gids groups groups.length (l0, ncomps) ∧ lids = fillIds l0 gids :=
  (layerIds_induct K P data gids groups (LInv data gids groups) (LInv_init data gids groups)
    fun k st o hk hI ho => LInv_write K P data hK gids groups hg k st hk hI o ho).of_ok h

theorem layerIds_written {α} [DecidableEq α] (K : Kern) (P : PPrms α) (data : List (Hit α))
    (hK : KernOK K P.basePerc) (gids : List Int) (groups : Table) (hg : IdsExact data gids)
    (hcid : (groups.map (·.cid)).Nodup) (lids ncomps : List Int)
    (h : layerIds K P data gids groups = .ok (lids, ncomps)) :
    ∃ l0, (LInv data gids groups groups.length (l0, ncomps) ∧ WInv K P data gids groups groups.length (l0, ncomps)) ∧
      lids = fillIds l0 gids :=
  (layerIds_induct K P data gids groups (fun k st => LInv data gids groups k st ∧ WInv K P data gids groups k st)
    ⟨LInv_init data gids groups, fun _ _ _ hk => absurd hk (Nat.not_lt_zero _)⟩
    fun k st o hk hI ho => ⟨LInv_write K P data hK gids groups hg k st hk hI.1 o ho,
      WInv_write K P data hK gids groups hg hcid k st hk hI.1 hI.2 o ho⟩).of_ok h

theorem fillIds_cases {α} {data : List (Hit α)} {gids : List Int} {groups : Table} {k : Nat}
    {l0 : List (Option Int)} {nc : List Int} (hI : LInv data gids groups k (l0, nc)) (i : Nat) (v g : Int)
    (hv : (fillIds l0 gids)[i]? = some v) (hgi : gids[i]? = some g) :
    v = g ∨ ∃ (ind c : Nat) (gr : Row), groups[ind]? = some gr ∧ g = gr.cid ∧ 0 ≤ gr.cid ∧ c < 10 ∧
      v = lidOffset gids + 10 * (ind : Int) + (c : Int) := by
  obtain ⟨l, g', hl, hg', rfl⟩ := (fillIds_getElem? l0 gids i v).mp hv
  rw [hgi] at hg'
  cases hg'
  cases l with
  | none => exact .inl rfl
  | some w =>
    obtain ⟨ind, c, gr, _, h2, h3, h4, h5, h6⟩ := hI.gen i w hl
    rw [hgi] at h3
    exact .inr ⟨ind, c, gr, h2, Option.some.inj h3, h4, h5, h6⟩

theorem mem_groupLids (fin gids : List Int) (cid v : Int) :
    v ∈ ((fin.zip gids).filter (·.2 = cid)).map (·.1) ↔ ∃ i : Nat, gids[i]? = some cid ∧ fin[i]? = some v := by
  simp only [List.mem_map, List.mem_filter, decide_eq_true_eq]
  constructor
  · rintro ⟨⟨a, b⟩, ⟨hp, hb⟩, rfl⟩
    obtain ⟨i, hi⟩ := List.mem_iff_getElem?.mp hp
    obtain ⟨h1, h2⟩ := List.getElem?_zip_eq_some.mp hi
    simp only at hb
    subst hb
    exact ⟨i, h2, h1⟩
  · rintro ⟨i, h1, h2⟩
    exact ⟨(v, cid), ⟨List.mem_iff_getElem?.mpr ⟨i, List.getElem?_zip_eq_some.mpr ⟨h2, h1⟩⟩, rfl⟩, rfl⟩

theorem layerIds_exact {α} [DecidableEq α] (K : Kern) (P : PPrms α) (data : List (Hit α))
    (hK : KernOK K P.basePerc) (gids : List Int) (groups : Table) (hg : IdsExact data gids)
    (lids ncomps : List Int) (h : layerIds K P data gids groups = .ok (lids, ncomps)) :
    IdsExact data lids := by
  obtain ⟨l0, hI, rfl⟩ := layerIds_linv K P data hK gids groups hg lids ncomps h
  refine fillIds_exact hg hI.len fun i v hv => ?_
  obtain ⟨ind, c, gr, _, _, h3, h4, _, h6⟩ := hI.gen i v hv
  have := lidOffset_ge gids
  exact ⟨by omega, gr.cid, h3, h4⟩

/-- Hits with equal layer ids have equal group ids: a generated id `off + 10·ind + c` determines the index `ind` of
its group because the labels `c` are below 10, and it is no group id because `off` exceeds them all. -/
theorem layers_refine_groups {α} [DecidableEq α] (K : Kern) (P : PPrms α) (data : List (Hit α))
    (hK : KernOK K P.basePerc) (gids : List Int) (groups : Table) (hg : IdsExact data gids)
    (lids ncomps : List Int) (h : layerIds K P data gids groups = .ok (lids, ncomps)) :
    ∀ p₁ ∈ lids.zip gids, ∀ p₂ ∈ lids.zip gids, p₁.1 = p₂.1 → p₁.2 = p₂.2 := by
  obtain ⟨l0, hI, rfl⟩ := layerIds_linv K P data hK gids groups hg lids ncomps h
  rintro ⟨v₁, g₁⟩ hp₁ ⟨v₂, g₂⟩ hp₂ hv
  simp only at hv ⊢
  subst hv
  obtain ⟨i₁, hi₁⟩ := List.mem_iff_getElem?.mp hp₁
  obtain ⟨i₂, hi₂⟩ := List.mem_iff_getElem?.mp hp₂
  obtain ⟨hv₁, hg₁⟩ := List.getElem?_zip_eq_some.mp hi₁
  obtain ⟨hv₂, hg₂⟩ := List.getElem?_zip_eq_some.mp hi₂
  have hlt₁ := lidOffset_gt gids g₁ (List.mem_of_getElem? hg₁)
  have hlt₂ := lidOffset_gt gids g₂ (List.mem_of_getElem? hg₂)
  rcases fillIds_cases hI i₁ v₁ g₁ hv₁ hg₁ with e₁ | ⟨ind₁, c₁, gr₁, a₁, b₁, _, d₁, e₁⟩ <;>
  rcases fillIds_cases hI i₂ v₁ g₂ hv₂ hg₂ with e₂ | ⟨ind₂, c₂, gr₂, a₂, b₂, _, d₂, e₂⟩
  · exact e₁.symm.trans e₂
  · exact absurd hlt₁ (not_lt.mpr (by rw [← e₁, e₂]; exact le_subId _ _ _))
  · exact absurd hlt₂ (not_lt.mpr (by rw [← e₂, e₁]; exact le_subId _ _ _))
  · obtain rfl := subId_inj d₁ d₂ (e₁.symm.trans e₂)
    rw [b₁, b₂, Option.some.inj (a₁.symm.trans a₂)]

theorem groupLids_kept (l0 : List (Option Int)) (gids : List Int) (cid : Int) (hrow : cid ∈ gids)
    (hnone : ∀ i : Nat, gids[i]? = some cid → l0[i]? = some none) (v : Int) :
    v ∈ (((fillIds l0 gids).zip gids).filter (·.2 = cid)).map (·.1) ↔ v ∈ [cid] := by
  rw [mem_groupLids, List.mem_singleton]
  constructor
  · rintro ⟨i, h1, h2⟩
    exact (fillIds_row (hnone i h1) h1 v).mp h2
  · rintro rfl
    obtain ⟨i, hi⟩ := List.mem_iff_getElem?.mp hrow
    exact ⟨i, hi, (fillIds_row (hnone i hi) hi _).mpr rfl⟩

theorem groupLids_split (l0 : List (Option Int)) (gids : List Int) (cid : Int) (f : Nat → Int) (pos ids : List Nat)
    (hpos : ∀ i : Nat, gids[i]? = some cid ↔ i ∈ pos) (hil : ids.length = pos.length)
    (hw : ∀ j (hj : j < pos.length) (hj2 : j < ids.length), l0[pos[j]]? = some (some (f ids[j]))) (v : Int) :
    v ∈ (((fillIds l0 gids).zip gids).filter (·.2 = cid)).map (·.1) ↔ v ∈ ids.map f := by
  rw [mem_groupLids, List.mem_map]
  constructor
  · rintro ⟨i, h1, h2⟩
    obtain ⟨j, hj, rfl⟩ := List.getElem_of_mem ((hpos i).mp h1)
    exact ⟨ids[j]'(hil ▸ hj), List.getElem_mem _, ((fillIds_row (hw j hj (hil ▸ hj)) h1 v).mp h2).symm⟩
  · rintro ⟨c, hc, rfl⟩
    obtain ⟨j, hj2, rfl⟩ := List.getElem_of_mem hc
    have h1 := (hpos _).mpr (List.getElem_mem (hil ▸ hj2 : j < pos.length))
    exact ⟨_, h1, (fillIds_row (hw j (hil ▸ hj2) hj2) h1 _).mpr rfl⟩

/-- A group reported with `k ≥ 1` sub-components owns exactly `k` layer ids, a group not examined (`-1`) exactly one. -/
theorem ncomp_layers {α} [DecidableEq α] (K : Kern) (P : PPrms α) (data : List (Hit α))
    (hK : KernOK K P.basePerc) (gids : List Int) (groups : Table) (hg : IdsExact data gids)
    (hcid : (groups.map (·.cid)).Nodup) (hmem : ∀ g ∈ groups, g.cid ∈ gids)
    (lids ncomps : List Int) (h : layerIds K P data gids groups = .ok (lids, ncomps))
    (ind : Nat) (g : Row) (hgi : groups[ind]? = some g) (k : Int) (hk : ncomps[ind]? = some k) :
    (((lids.zip gids).filter (·.2 = g.cid)).map (·.1)).eraseDups.length = (if k ≥ 1 then k.toNat else 1) := by
  obtain ⟨l0, ⟨hI, hW⟩, rfl⟩ := layerIds_written K P data hK gids groups hg hcid lids ncomps h
  obtain ⟨o, ho, rfl⟩ := forall₂_getElem? ((layerIds_decisions K P data gids groups).of_ok h) hgi hk
  have hw := hW ind g o (List.getElem?_eq_some_iff.mp hgi).1 hgi ho
  have hpos : ∀ i : Nat, gids[i]? = some g.cid ↔ i ∈ grpPos K data gids g.cid :=
    fun i => ⟨mem_grpPos_of K _ hK data gids hg.len _ i, fun hi => ((mem_grpPos K data gids _ i).mp hi).2⟩
  rcases splitIds_cases o with ⟨n, ids, hgt, rfl, hsp⟩ | ⟨hsp, hle⟩
  · -- the components are all populated (the `assert`), and `c ↦ off + 10·ind + c` is injective
    obtain ⟨h30, minSep, _, hgmm⟩ := (layerDecide_sat K P data gids g).of_ok ho _ rfl
    obtain ⟨hil, _, _, _, hdist⟩ := ncompFromGmm_post K P hK _ _ _ _ _ hgmm
    rw [groupHeights_length K hg _ (grp_cid_nonneg K hg _ (groupHeights_gmm_domain h30).1)] at hil
    rw [eraseDups_length_congr (groupLids_split l0 gids g.cid (fun c => lidOffset gids + 10 * (ind : Int) + (c : Int))
        _ ids hpos hil (hw.split ids hsp)),
      eraseDups_length_map _ (fun a b hab => Int.ofNat_inj.mp (Int.add_left_cancel hab)),
      hdist.resolve_left (Nat.ne_of_gt hgt), show ncompOf (some (n, ids)) = (n : Int) from rfl]
    split_ifs
    · exact (Int.toNat_natCast n).symm
    · omega
  · rw [eraseDups_length_congr (groupLids_kept l0 gids g.cid (hmem g (List.mem_of_getElem? hgi))
      fun i hi => hw.kept hsp i ((hpos i).mp hi))]
    split_ifs
    · rw [show ncompOf o = 1 by omega]
      rfl
    · rfl

end Ampy
