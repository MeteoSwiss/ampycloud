import Ampy.Model.Pipeline
import Ampy.Spec.Checks
/-
Spec predicates for C05, C06, C07 written from the property texts, evaluated on what the
implementation produced after a full run.
-/
namespace Ampy.Spec
open Ampy

/-- What the implementation exposes after `run`. -/
structure Obs where
  input : List (Hit String)          -- the accepted input rows
  data : List (Hit String)           -- chunk.data (after cropping)
  flag : Bool
  sids : List Int
  gids : List Int
  lids : List Int
  slices : Table
  groups : Table
  layers : Table
  nSlices : Nat
  nGroups : Nat
  nLayers : Nat

def distinctNonNeg (ids : List Int) : List Int := (ids.filter (· ≥ 0)).eraseDups

def sameSet (a b : List Int) : Bool := a.all (b.contains ·) && b.all (a.contains ·)

/-- Expected cropping of the accepted input, written from C07's text. -/
def expectCrop (msa : Option Rat) (buf : Rat) (input : List (Hit String)) : List (Hit String) :=
  match msa with
  | none => input
  | some m =>
    input.filterMap fun h =>
      match h.height with
      | some y =>
        if y > m + buf then (if h.type ≤ 1 then some ⟨h.ceilo, h.dt, none, 0⟩ else none) else some h
      | none => some h

def c05 (P : Prms String) (o : Obs) : List String :=
  let lvl (name : String) (ids : List Int) (t : Table) (n : Nat) : List String :=
    fails (ids.length == o.data.length) s!"C05.{name}-one-id-per-hit" ++
    fails ((o.data.zip ids).all fun (h, i) => if h.height.isSome then decide (i ≥ 0) else i == -1)
      s!"C05.{name}-valid-iff-assigned" ++
    fails (sameSet (t.map (·.cid)) (distinctNonNeg ids) && (t.map (·.cid)).eraseDups.length == t.length)
      s!"C05.{name}-table-lists-the-sets" ++
    fails (n == t.length) s!"C05.n_{name}"
  lvl "slices" o.sids o.slices o.nSlices ++ lvl "groups" o.gids o.groups o.nGroups ++
  lvl "layers" o.lids o.layers o.nLayers ++
  -- each layer inside exactly one group
  fails ((distinctNonNeg o.lids).all fun l =>
    (((o.lids.zip o.gids).filter (·.1 == l)).map (·.2)).eraseDups.length == 1) "C05.layer-inside-one-group" ++
  -- k sub-components => k layers, not split => one layer
  fails (o.groups.all fun g =>
    let nl := (((o.lids.zip o.gids).filter (·.2 == g.cid)).map (·.1)).eraseDups.length
    match g.ncomp with
    | some k => if k ≥ 1 then nl == k.toNat else nl == 1
    | none => false) "C05.ncomp-vs-layers" ++
  -- no hit created, lost or altered (cropping excepted)
  fails (o.data == expectCrop P.msa P.msaBuf o.input) "C05.hits-preserved"

def minSepOf (P : Prms String) (h : Rat) : Rat :=
  (P.minSepVals[(P.minSepLims.filter (· < h)).length]?).getD 0

def pairwiseSep (sep : Rat → Rat) : List Rat → Bool
  | [] => true
  | a :: r => r.all (fun b => decide (b - a ≥ sep b)) && pairwiseSep sep r

/-- `raw` lists, per row of the groups table, the number of components of the mixture selected for that group *before*
the re-merge pass of `ncomp_from_gmm` (computed by the driver from the recorded mixture answers; `none` = group not
examined or answers not recorded). The second clause of C06 speaks of groups "split into as many layers as the mixture
model distinguishes (no sub-layers re-merged)": exactly the groups whose reported `ncomp` equals that raw count. (The
`ncomp` column alone cannot tell: it is the count after re-merging — a monitor guarded by it only was refuted by proof,
see Lemmas/MonitorRun.lean.) -/
def c06 (P : Prms String) (o : Obs) (raw : List (Option Nat)) : List String :=
  let gb := o.groups.map (·.base)
  fails (pairwiseSep (minSepOf P) gb) "C06.groups-min-sep" ++
  (if P.exclude ≠ [] then [] else
    fails ((o.groups.zip raw).all fun (g, rw) =>
      let ls := (((o.lids.zip o.gids).filter (·.2 == g.cid)).map (·.1)).eraseDups
      match g.ncomp, rw with
      | some k, some n0 =>
        if k ≥ 2 ∧ ls.length == k.toNat ∧ n0 == k.toNat then
          let bases := (o.layers.filter fun r => ls.contains r.cid).map (·.base)
          pairwiseSep (fun _ => minSepOf P g.base) bases
        else true
      | _, _ => true) "C06.split-layers-min-sep")

def c07 (P : Prms String) (o : Obs) : List String :=
  match P.msa with
  | none => fails (o.data == o.input) "C07.no-msa-nothing-cropped" ++ fails (!o.flag) "C07.no-msa-flag-false"
  | some m =>
    let lim := m + P.msaBuf
    let nAbove := (o.input.filter fun h => match h.height with | some y => decide (y > lim) | none => false).length
    fails (o.flag == decide (((nAbove : Nat) : Rat) > P.t0)) "C07.flag-iff" ++
    fails (o.data == expectCrop P.msa P.msaBuf o.input) "C07.kept-intact" ++
    fails (o.data.all fun h => match h.height with | some y => decide (y ≤ lim) | none => true) "C07.nothing-above-limit-left"

end Ampy.Spec
