import Ampy.Model.Metar
/-
Table-level vocabulary shared by the property theorems (C01-C04) and by the driver, which
evaluates the decidable versions on the tables and messages the implementation produced.
-/
namespace Ampy

/-- Rows that `metar_msg` reports: significant and with a base below the MSA. -/
def reported (msa : Option Rat) (t : Table) : List Row :=
  t.filter fun r => r.significant && belowMsa msa r.base

/-- Rows of at least 1 okta with a base below the MSA. -/
def cloudBelow (msa : Option Rat) (t : Table) : List Row :=
  t.filter fun r => decide (r.okta ≥ 1) && belowMsa msa r.base

/-- What every table built by `metarize` satisfies (proved in `Lemmas/Metarize`). -/
structure TableOK (t : Table) : Prop where
  sorted : t.Pairwise (fun a b => a.base ≤ b.base)
  flags : t.map (·.significant) = significantCloud (t.map (·.okta))
  codes : ∀ r ∈ t, mkCode r.okta r.base = .ok r.code
  oktas : ∀ r ∈ t, 0 ≤ r.okta ∧ r.okta ≤ 8
  bases : ∀ r ∈ t, 0 ≤ r.base ∧ r.base < 100000

/-- One METAR cloud group: FEW/SCT/BKN/OVC followed by three decimal digits. -/
def IsGroup (g : String) : Prop :=
  ∃ p ∈ ["FEW", "SCT", "BKN", "OVC"], ∃ d₀ d₁ d₂ : Char,
    d₀.isDigit ∧ d₁.isDigit ∧ d₂.isDigit ∧ g = p ++ String.ofList [d₀, d₁, d₂]

/-- Decidable version of `IsGroup` for the driver. -/
def isGroupB (g : String) : Bool :=
  match g.toList with
  | [a, b, c, d₀, d₁, d₂] =>
    ["FEW", "SCT", "BKN", "OVC"].contains (String.ofList [a, b, c]) && d₀.isDigit && d₁.isDigit && d₂.isDigit
  | _ => false

end Ampy
