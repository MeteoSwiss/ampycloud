import Ampy.Lemmas.LayerOutcome
import Ampy.Props.C05
import Ampy.Props.C09
/-!
# C20 — diagnostic plotting is total and free of side effects  (level: other; partial)

What is modelled of `plots/diagnostics.py`: it reads the three tables *by position* for `ind < n_*`, looks
up `cluster_id`, indexes `MRKS[ind % len(MRKS)]` and the colour cycle `% len`, maps `ncomp` through a symbol
table with keys `-1, 1, 2, 3`, calls `metar_msg()`, and runs inside a matplotlib style context manager.
matplotlib itself (text layout, LaTeX, back ends, file writing) cannot be modelled: totality and absence of
side effects of the real drawing are searched by the harness.
-/
namespace Ampy

/-- Every table position the plot reads exists: `n_slices`, `n_groups`, `n_layers` equal the table
lengths for every chunk `run` returns. -/
theorem C20_positions_exist {α} [DecidableEq α] (K : Kern) (P : PPrms α) (hK : KernOK K P.basePerc)
    (checked : List (Hit α)) (c : Chunk α) (h : run K P checked = .ok c) :
    ∃ sids gids lids sl gr lay,
      c.sids = some sids ∧ c.gids = some gids ∧ c.lids = some lids ∧
      c.slices = some sl ∧ c.groups = some gr ∧ c.layers = some lay ∧
      nWhich sids = sl.length ∧ nWhich gids = gr.length ∧ nWhich lids = lay.length := by
  obtain ⟨sids, gids, lids, sl, gr, lay, h1, h2, h3, h4, h5, h6, _, n1, _, n2, _, n3⟩ := C05_tables_list_sets K P checked hK c h
  exact ⟨sids, gids, lids, sl, gr, lay, h1, h2, h3, h4, h5, h6, n1, n2, n3⟩

/-- An index taken modulo the length of a non-empty list is below that length (the plot indexes its marker and colour
lists this way). -/
theorem C20_cycle_index_in_bounds {β} (cycle : List β) (hne : cycle ≠ []) (ind : Nat) :
    ind % cycle.length < cycle.length :=
  Nat.mod_lt _ (List.length_pos_of_ne_nil hne)

/-- The style context manager (`plt.style.context`) restores the global rcParams whether or not the body
raises — the same save / run / restore-in-`finally` discipline as `tmp_seed`. -/
theorem C20_context_restores {G ε β : Type} (style : G) (body : G → G × Except ε β) (rc : G) :
    (tmpSeed style body rc).1 = rc :=
  C09_tmpseed_restores style body rc

/-- Pairing a chunk with the value of any function of it leaves the chunk component as it was.  The plot itself is
not modelled: that the real drawing writes nothing to the chunk is searched by the harness. -/
theorem C20_reads_only {α F : Type} (plot : Chunk α → F) (c : Chunk α) : (c, plot c).1 = c := rfl

/-- `ncomp` of every group lies in the keys `-1, 1, 2, 3` of the plot's symbol table (`symbs[ncomp]`
cannot raise a `KeyError`). -/
theorem C20_ncomp_keys {α} [DecidableEq α] (K : Kern) (P : PPrms α) (hK : KernOK K P.basePerc)
    (checked : List (Hit α)) (c : Chunk α) (h : run K P checked = .ok c) (gr : Table) (hg : c.groups = some gr) :
    ∀ g ∈ gr, g.ncomp = some (-1) ∨ g.ncomp = some 1 ∨ g.ncomp = some 2 ∨ g.ncomp = some 3 := by
  obtain ⟨t, hp⟩ := run_parts K P checked c h
  obtain rfl : setNcomp t.gr t.nc = gr := Option.some.inj (hp.groups_eq.symm.trans hg)
  have hrange := layerIds_ncomp_range K P hK c.data t.gids t.gr t.lids t.nc hp.layer
  intro g hgm
  obtain ⟨ind, hind⟩ := List.getElem?_of_mem hgm
  obtain ⟨r₀, k, _, hk, rfl⟩ :=
    setNcomp_entry t.gr t.nc (layerIds_ncomps_length K P c.data t.gids t.gr t.lids t.nc hp.layer) ind g hind
  rcases hrange k (List.mem_of_getElem? hk) with rfl | rfl | rfl | rfl
  · exact .inl rfl
  · exact .inr (.inl rfl)
  · exact .inr (.inr (.inl rfl))
  · exact .inr (.inr (.inr rfl))

end Ampy
