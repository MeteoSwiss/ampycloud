import Ampy.Props.Monitor
import Ampy.GenEq.SignificantCloud
/-!
# C17 on the source

`Gen.significant_cloud` is regenerated from `icao.significant_cloud` on every run and proved equal to the model
(DESIGN.md §11.10): the statements are about the source text, under the translator's reading of the Python subset
(`Ampy/Gen/Prelude.lean`), not only about a model sampled against it.
-/
namespace Ampy

theorem C17_src_is_model (os : List Int) : Gen.significant_cloud os = significantCloud os :=
  GenEq.significant_cloud_eq os

theorem C17_src_length (os : List Int) : (Gen.significant_cloud os).length = os.length := by
  rw [C17_src_is_model]; exact C17_length os

/-- Every flag list the source computes is what the 1-3-5 rule prescribes (the monitor's predicate is the property text). -/
theorem C17_src_rule (os : List Int) : Spec.c17 os (Gen.significant_cloud os) = true := by
  rw [C17_src_is_model]; exact C17_monitor_sound os

theorem C17_src_prefix (xs ys : List Int) :
    (Gen.significant_cloud (xs ++ ys)).take xs.length = Gen.significant_cloud xs := by
  rw [C17_src_is_model, C17_src_is_model]; exact C17_prefix xs ys

theorem C17_src_at_most_three (os : List Int) : (Gen.significant_cloud os).count true ≤ 3 := by
  rw [C17_src_is_model]; exact C17_at_most_three os

/-- All three thresholds and the cap. -/
example : Gen.significant_cloud [0, 1, 2, 3, 4, 5, 8, 8] =
    [false, true, false, true, false, true, false, false] := by decide

end Ampy
