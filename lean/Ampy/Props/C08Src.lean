import Ampy.Props.C08
import Ampy.GenEq.BestGmm
/-!
# C08 on the source: model selection among the mixtures

`Gen.best_gmm` is regenerated from `layer.best_gmm` on every run (DESIGN.md §11.10; `scores2nrl`, used by mode `prob` only, is
a parameter).  With `bestDelta_never_boosted` the tie makes assumption A3 (the selected mixture has no unpopulated
component) a statement about what the source selects.
-/
namespace Ampy
open Ampy.Py

theorem C08_src_best_gmm_is_model (f : List Rat → List Rat) (abics : List Rat) (p g : Rat) :
    Gen.best_gmm f abics "delta" p g = .ok ((bestDelta abics g : Nat) : Int) :=
  GenEq.best_gmm_delta_eq f abics p g

/-- On the source: fed with the penalised scores, the selection never returns a mixture that left a component
unpopulated — for non-negative scores, `delta_mul_gain ≤ 1` and a first mixture that is populated itself. -/
theorem C08_src_selection_never_boosted (f : List Rat → List Rat) (fits : List GmmFit) (p gain : Rat) (hg1 : gain ≤ 1)
    (hnonneg : ∀ x ∈ fits, 0 ≤ x.score)
    (h0 : ∀ x, fits[0]? = some x → ¬ ((x.labels.eraseDups).length < 0 + 1)) :
    ∃ best : Nat, Gen.best_gmm f (boostScores fits) "delta" p gain = .ok (best : Int) ∧
      ∀ x, fits[best]? = some x → ¬ ((x.labels.eraseDups).length < best + 1) :=
  ⟨bestDelta (boostScores fits) gain, C08_src_best_gmm_is_model f _ p gain,
   bestDelta_never_boosted fits gain hg1 hnonneg h0⟩

/-- On the source: an unknown selection mode is an `AmpycloudError`, as soon as there are two mixtures to choose from. -/
theorem C08_src_badmode (f : List Rat → List Rat) (abics : List Rat) (mode : String) (p g : Rat)
    (h1 : mode ≠ "prob") (h2 : mode ≠ "delta") (hl : 2 ≤ abics.length) :
    Gen.best_gmm f abics mode p g = .error (.ampy "") :=
  GenEq.best_gmm_badmode f abics mode p g h1 h2 hl

/-- The gain decides between the models. -/
example : Gen.best_gmm id [100, 96, 90] "delta" 1 (95 / 100) = .ok 2 ∧
    Gen.best_gmm id [100, 96, 97] "delta" 1 (95 / 100) = .ok 0 := by
  decide +kernel

end Ampy
