import Ampy.Props.C03
import Ampy.Gen.SrcOkta2symb
import Ampy.GenEq.Perc2okta
/-!
# C20 on the source: the okta symbols of the plots

`plots/diagnostics.py` labels every slice, group and layer with `wmo.okta2symb`, which raises for an okta it does not
know.  `Gen.okta2symb` is regenerated from `wmo.py` on every run (DESIGN.md §11.10) and has no hand-written model: the
statements are about that text.
-/
namespace Ampy

/-- The oktas a report can hold (0..8, and 9 for an obscured sky), as the list the table checks run over. -/
def oktas : List Int := (List.range 10).map Int.ofNat

theorem mem_oktas {v : Int} (h0 : 0 ≤ v) (h9 : v ≤ 9) : v ∈ oktas :=
  List.mem_map.mpr ⟨v.toNat, List.mem_range.mpr (by omega), Int.toNat_of_nonneg h0⟩

/-- Plain style: the decimal digits of the okta, for every integer. -/
theorem C20_src_symb_plain (v : Int) : Gen.okta2symb v false = .ok (toString v) := by
  simp [Gen.okta2symb, Py.pyStrInt]

theorem C20_src_symb_total (v : Int) (b : Bool) (h0 : 0 ≤ v) (h9 : v ≤ 9) : ∃ s, Gen.okta2symb v b = .ok s := by
  cases b with
  | false => exact ⟨_, C20_src_symb_plain v⟩
  | true =>
    -- the metsymb style is a ten-entry table
    have h := (by decide : ∀ v ∈ oktas, (Gen.okta2symb v true).isOk = true) v (mem_oktas h0 h9)
    cases e : Gen.okta2symb v true with
    | ok s => exact ⟨s, rfl⟩
    | error _ => rw [e] at h; cases h

/-- Every okta a table can hold (`oktaOf`, C03) has a symbol in both styles: the label loops of the plot never reach the
refusal. -/
theorem C20_src_symb_of_table_okta (n M : Nat) (t0 t8 : Rat) (hM : 0 < M) (h : n ≤ M) (a : Int)
    (ha : oktaOf n M t0 t8 = .ok a) (b : Bool) : ∃ s, Gen.okta2symb a b = .ok s := by
  obtain ⟨h0, h8⟩ := C03_okta_range n M t0 t8 hM h a ha
  exact C20_src_symb_total a b h0 (by omega)

theorem C20_src_symb_injective (v w : Int) (hv0 : 0 ≤ v) (hv9 : v ≤ 9) (hw0 : 0 ≤ w) (hw9 : w ≤ 9)
    (h : Gen.okta2symb v true = Gen.okta2symb w true) : v = w :=
  -- the ten entries of the table are pairwise different
  List.inj_on_of_nodup_map (by decide : (oktas.map (Gen.okta2symb · true)).Nodup)
    (mem_oktas hv0 hv9) (mem_oktas hw0 hw9) h

/-- Outside 0..9 the metsymb style raises an `AmpycloudError`, never another exception. -/
theorem C20_src_symb_refusal (v : Int) (h : v < 0 ∨ 9 < v) : ∃ m, Gen.okta2symb v true = .error (.ampy m) := by
  have hv : ∀ k : Int, 0 ≤ k → k ≤ 9 → decide (v = k) = false := fun k _ _ => decide_eq_false (by omega)
  exact ⟨"", by simp [Gen.okta2symb, hv]⟩

/-- Source to source: the translated `okta2symb` has a symbol, in both styles, for what the translated `perc2okta` makes
of `n` hits out of `m`. -/
theorem C20_src_symb_of_src_okta (n m : Nat) (hm : 0 < m) (h : n ≤ m) (b : Bool) :
    ∃ k s, Gen.perc2okta (some ((n : Rat) / (m : Rat) * 100)) = .ok k ∧ Gen.okta2symb k b = .ok s := by
  have hr := percNM_range hm h
  obtain ⟨h0, h8⟩ := oktaOfPerc_range hr.1 hr.2
  obtain ⟨s, hs⟩ := C20_src_symb_total _ b h0 (by omega)
  exact ⟨_, s, GenEq.perc2okta_ok hr, hs⟩

example : Gen.okta2symb 8 true = .ok "\\eightoktas\\ " ∧ Gen.okta2symb 3 false = .ok "3" := by decide

end Ampy
