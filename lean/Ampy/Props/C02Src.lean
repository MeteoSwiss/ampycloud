import Ampy.GenEq.Small
/-!
# C02 on the source: the NCD / NSC fall-back

`Gen.ncd_or_nsc` is regenerated by `harness/py2lean.py` from `CeiloChunk._ncd_or_nsc` on every run (DESIGN.md §11.10); the
chunk's high-cloud flag is its parameter.
-/
namespace Ampy

theorem C02_src_fallback_is_model (flag : Bool) : Gen.ncd_or_nsc flag = ncdOrNsc flag := GenEq.ncd_or_nsc_eq flag

/-- The fall-back is `NSC` exactly when the flag is set, `NCD` exactly when it is not (the flag: more than
`MAX_HITS_OKTA0` hits cropped above MSA + buffer). -/
theorem C02_src_fallback (flag : Bool) :
    (Gen.ncd_or_nsc flag = "NSC" ↔ flag = true) ∧ (Gen.ncd_or_nsc flag = "NCD" ↔ flag = false) := by
  cases flag <;> decide

/-- The message of an empty table is what the source's fall-back returns. -/
theorem C02_src_empty_table (msa : Option Rat) (flag : Bool) : metarMsg msa flag 0 [] = Gen.ncd_or_nsc flag := by
  rw [C02_src_fallback_is_model]; rfl

end Ampy
