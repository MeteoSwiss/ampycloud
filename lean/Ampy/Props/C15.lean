import Ampy.Lemmas.Screen
/-!
# C15 — input screening rejects exactly the documented conditions, normalises the rest

`screen` models `utils.check_data_consistency` on frames whose cells coerce to the required dtypes
(the quantifier's domain); `Rejected` is the documented list, written independently.
-/
namespace Ampy

/-- The check raises exactly on the documented conditions. -/
theorem C15_rejects_iff {α} [DecidableEq α] (arg : PyArg α) : (∃ e, screen arg = .error e) ↔ Rejected arg := by
  rcases screen_cases arg with ⟨hr, why, hw, -⟩ | ⟨f, g, rfl, hb⟩
  · exact ⟨fun _ => hr, fun _ => ⟨_, hw⟩⟩
  · rw [screen_frame_ok g hb]
    exact ⟨fun ⟨e, he⟩ => (nomatch he), fun hr => absurd ((rejected_frame_iff g).mp hr) hb⟩

/-- Every refusal is an `AmpycloudError`. -/
theorem C15_error_is_ampy {α} [DecidableEq α] (arg : PyArg α) (e : AmpyErr) (h : screen arg = .error e) :
    ∃ why, e = .ampy why := by
  rcases screen_cases arg with ⟨-, why, hw, -⟩ | ⟨f, g, rfl, hb⟩
  · exact ⟨why, Except.error.inj (h.symm.trans hw)⟩
  · rw [screen_frame_ok g hb] at h; cases h

/-- A check that passes returns the four columns with the caller's (coerced) values in order, the caller's index, and
consistent rows. -/
theorem C15_output_shape {α} [DecidableEq α] (f : RawFrame α) (c : Checked α) (w : List Warn)
    (h : screen (.frame f) = .ok (c, w)) :
    ∃ cc d hh t, f.ceilo = some cc ∧ f.dt = some d ∧ f.height = some hh ∧ f.type = some t ∧
      c.rows = zipRows cc.cells d.cells hh.cells t.cells ∧ c.index = f.index ∧ ¬ BadRows c.rows := by
  rcases screen_cases (.frame f) with ⟨-, why, hw, -⟩ | ⟨f', g, hf, hb⟩
  · rw [hw] at h; cases h
  · cases hf
    rw [screen_frame_ok g hb] at h
    cases h
    exact ⟨g.ceilo, g.dt, g.height, g.type, g.ceilo_eq, g.dt_eq, g.height_eq, g.type_eq, rfl, rfl, hb⟩

/-- Checking a checked frame changes nothing and warns about no column or dtype.  `hwf` (columns as long as `nrows`)
keeps the checked frame, whose `nrows` is `rows.length`, from being taken for empty. -/
theorem C15_idempotent {α} [DecidableEq α] (arg : PyArg α) (hwf : ∀ f, arg = .frame f → f.WF) (c : Checked α)
    (w : List Warn) (h : screen arg = .ok (c, w)) :
    ∃ w', screen c.toArg = .ok (c, w') ∧ ∀ x ∈ w', (∀ col, x ≠ .dtype col) ∧ (∀ col, x ≠ .superfluous col) := by
  rcases screen_cases arg with ⟨-, why, hw, -⟩ | ⟨f, g, rfl, hb⟩
  · rw [hw] at h; cases h
  · have wf := hwf f rfl
    rw [screen_frame_ok g hb] at h
    cases h
    have hlen := length_zipRows g.ceilo.cells g.dt.cells g.height.cells g.type.cells f.nrows
      (wf.ceilo _ g.ceilo_eq) (wf.dt _ g.dt_eq) (wf.height _ g.height_eq) (wf.type _ g.type_eq)
    exact ⟨_, screen_toArg _ (hlen ▸ g.nrows_ne) hb, heightWarnings_not_col _⟩

/-- Type-0 non-detection on ceilometer "a", VV hit (type -1) on ceilometer "b", same time stamp. -/
def exOtherCeilo : RawFrame String :=
  { nrows := 2
    index := [0, 1]
    ceilo := some ⟨true, ["a", "b"]⟩
    dt := some ⟨true, [0, 0]⟩
    height := some ⟨true, [none, some 100]⟩
    type := some ⟨true, [0, -1]⟩
    extra := [] }

/-- A type-0 and a type-1 row on the same ceilometer "a" and the same time stamp. -/
def exSameCeilo : RawFrame String :=
  { nrows := 2
    index := [0, 1]
    ceilo := some ⟨true, ["a", "a"]⟩
    dt := some ⟨true, [0, 0]⟩
    height := some ⟨true, [none, some 100]⟩
    type := some ⟨true, [0, 1]⟩
    extra := [] }

theorem exists_ok_of_isOk {ε β} (x : Except ε β) (h : x.isOk = true) : ∃ r, x = .ok r := by
  cases x with
  | error e => cases h
  | ok r => exact ⟨r, rfl⟩

theorem exists_error_of_not_isOk {ε β} (x : Except ε β) (h : x.isOk = false) : ∃ e, x = .error e := by
  cases x with
  | error e => exact ⟨e, rfl⟩
  | ok r => cases h

/-- A type-0 and a typed hit at the same time on different ceilometers are accepted.  (That the argument is not
touched is checked by the harness: the code works on a deep copy, `screen` is a function.) -/
example : ∃ r, screen (.frame exOtherCeilo) = .ok r :=
  exists_ok_of_isOk _ (by decide +kernel)

/-- A type-0 and a type-1 hit on the same ceilometer at the same time stamp are refused. -/
example : ∃ e, screen (.frame exSameCeilo) = .error e :=
  exists_error_of_not_isOk _ (by decide +kernel)

end Ampy
