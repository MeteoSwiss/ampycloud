import Ampy.Props.C13
/-!
# C09 — results are reproducible and the global random state is left alone  (level: other; partial)

What a theorem can carry is the effect discipline: in the model processing has no random-state argument, and the
only code that touches the global NumPy state does so under `tmp_seed` (save, seed, body, restore in `finally`).
Reproducibility of the third-party kernels across processes, hash seeds and prior states cannot be exhibited by a
model of ampycloud: the harness samples it.
-/
namespace Ampy

/-- `utils.tmp_seed(seed)` around a body, which maps the global state `G` it finds to the one it leaves and a value or
an exception. -/
def tmpSeed {G ε β : Type} (seedState : G) (body : G → G × Except ε β) (g : G) : G × Except ε β :=
  let saved := g                      -- np.random.get_state()
  let (_, r) := body seedState        -- np.random.seed(seed); body runs on the seeded state
  (saved, r)                          -- finally: np.random.set_state(saved), raised or not

/-- Whatever the body does, raising included, the global state afterwards is the one before. -/
theorem C09_tmpseed_restores {G ε β : Type} (seedState : G) (body : G → G × Except ε β) (g : G) :
    (tmpSeed seedState body g).1 = g := rfl

/-- The body runs on the seeded state: its outcome does not depend on the prior global state. -/
theorem C09_tmpseed_independent {G ε β : Type} (seedState : G) (body : G → G × Except ε β) (g g' : G) :
    (tmpSeed seedState body g).2 = (tmpSeed seedState body g').2 := rfl

/-- The API operations that matter for the global state. -/
inductive GOp (G : Type) where
  | process                                   -- CeiloChunk(...), find_*, metarize, metar_msg, run, metar
  | demoData                                  -- mocker.canonical_demo_data(): mock_layers under tmp_seed(42)
  | withTmpSeed (seedState : G) (body : G → G × Except String Unit)
  | userDraw (f : G → G)                      -- the caller's own use of numpy.random between calls

/-- Effect of an operation on the global state (`seed42`, `mock`: the seeded state, the drawing of `mock_layers`). -/
def gstep {G : Type} (seed42 : G) (mock : G → G × Except String Unit) (g : G) : GOp G → G
  | .process => g
  | .demoData => (tmpSeed seed42 mock g).1
  | .withTmpSeed s body => (tmpSeed s body g).1
  | .userDraw f => f g

/-- Along any history, ampycloud's own operations never change the global state: the final state is what
the caller's own draws alone produce. -/
theorem C09_global_state_untouched {G : Type} (seed42 : G) (mock : G → G × Except String Unit) (ops : List (GOp G)) (g : G) :
    ops.foldl (gstep seed42 mock) g =
      (ops.filterMap fun | .userDraw f => some f | _ => none).foldl (fun g f => f g) g := by
  rw [List.foldl_filterMap]
  congr 1
  funext g op
  cases op <;> rfl

/-- Same data, same parameters, same chunk: in the model `run` is a function.  The content comes from the
correspondence check, which shows the implementation equals that function on every scene. -/
theorem C09_function {α} [DecidableEq α] (K : Kern) (P : PPrms α) (d₁ d₂ : List (Hit α)) (h : d₁ = d₂) :
    run K P d₁ = run K P d₂ := by rw [h]

/-- What a chunk ends in does not depend on what other chunks did in between (`C13_projection`). -/
theorem C09_history_independent {α} [DecidableEq α] (K : Kern) (Ps : Nat → PPrms α) (sched : List (Nat × Op))
    (cs : List (Chunk α)) (i : Nat) (c : Chunk α) (hc : cs[i]? = some c) :
    (runSched K Ps cs sched).1[i]? = some (runOps K (Ps i) c (opsOf i sched)).1 :=
  C13_projection K Ps sched cs i c hc

end Ampy
