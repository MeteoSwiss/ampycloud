import Ampy.Props.C04
import Ampy.GenEq.CalcBaseHeight
/-!
# C04 on the source: the base height

`Gen.calc_base_height` is regenerated from `utils.calc_base_height` on every run (DESIGN.md §11.10; `np.percentile` is a
parameter); it is tied to the model for a look-back percentage `≥ 0`.
-/
namespace Ampy
open Ampy.Py

theorem C04_src_is_model (pctl : List Rat → Rat → Rat) (vals : List Rat) (lb q : Rat) (h : 0 ≤ lb) :
    GenEq.sameOutcome (Gen.calc_base_height pctl vals lb q) (calcBase pctl vals lb q) :=
  GenEq.calc_base_height_eq pctl vals lb q h

/-- On the source: the base height of a non-empty set exists and lies between its lowest and highest member, for any
percentile routine that stays between them and any look-back `≥ 0` (also one so small that `int(len*lb/100) = 0`:
Python's `vals[-0:]` is the whole array). -/
theorem C04_src_base_between (pctl : List Rat → Rat → Rat) (vals : List Rat) (lb q : Rat) (hne : vals ≠ [])
    (hlb : 0 ≤ lb) (hp : ∀ l, l ≠ [] → minRat l ≤ pctl l q ∧ pctl l q ≤ maxRat l) :
    ∃ b, Gen.calc_base_height pctl vals lb q = .ok b ∧ minRat vals ≤ b ∧ b ≤ maxRat vals := by
  obtain ⟨b, hb, h12⟩ := C04_base_between pctl vals lb q hne hp
  exact ⟨b, GenEq.sameOutcome_ok (hb ▸ C04_src_is_model pctl vals lb q hlb), h12⟩

/-- `C04_src_base_between` with numpy's linear-interpolation percentile in exact rationals, for every
`BASE_LVL_HEIGHT_PERC` in `[0, 100]`. -/
theorem C04_src_base_between_exact (vals : List Rat) (lb q : Rat) (hne : vals ≠ []) (hlb : 0 ≤ lb)
    (h0 : 0 ≤ q) (h1 : q ≤ 100) :
    ∃ b, Gen.calc_base_height percentile vals lb q = .ok b ∧ minRat vals ≤ b ∧ b ≤ maxRat vals :=
  C04_src_base_between percentile vals lb q hne hlb (fun l hl => C04_percentile_between l hl q h0 h1)

/-- A look-back of 50 % of five values keeps the last two; 10 % gives `int(0.5) = 0`, i.e. `vals[-0:]`: everything; an
empty array is refused. -/
example : Gen.calc_base_height (fun l _ => l.headD 0) [500, 100, 200, 300, 400] 50 50 = .ok 300 := by decide +kernel
example : Gen.calc_base_height (fun l _ => l.headD 0) [500, 100, 200, 300, 400] 10 50 = .ok 500 := by decide +kernel
example : Gen.calc_base_height (fun l _ => l.headD 0) [] 50 50 = .error (.ampy "") := by decide +kernel

end Ampy
