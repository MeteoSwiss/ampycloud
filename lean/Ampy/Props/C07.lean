import Ampy.Lemmas.Crop
import Ampy.Lemmas.Cascade
/-!
# C07 — hits above MSA+buffer never influence the result; those below are kept intact

`crop`/`cropRows` model the cropping of `_cleanup_pdf` (after the consistency check and the index
reset); `construct`, `findSlices`, `findGroups`, `findLayers`, `run` model the cascade, which reads the
data only through the cropped frame.
-/
namespace Ampy

/-- With no MSA nothing is cropped and the flag is false. -/
theorem C07_no_msa {α} (P : Prms α) (data : List (Hit α)) (h : P.msa = none) : crop P data = (data, false) := by
  simp [crop, h]

/-- The high-cloud flag is raised exactly when the number of hits above the limit exceeds MAX_HITS_OKTA0. -/
theorem C07_flag_iff {α} (P : Prms α) (data : List (Hit α)) (m : Rat) (h : P.msa = some m) :
    (crop P data).2 = true ↔ (((data.filter (aboveLim (m + P.msaBuf))).length : Nat) : Rat) > P.t0 := by
  simp [crop, h]

/-- A hit at or below the limit (or a non-detection) is kept unchanged and at its place. -/
theorem C07_kept {α} (lim : Rat) (a b : List (Hit α)) (h : Hit α) (hb : aboveLim lim h = false) :
    cropRows lim (a ++ h :: b) = cropRows lim a ++ h :: cropRows lim b := by
  rw [cropRows_append, cropRows_cons, cropOne_below lim h hb]; rfl

/-- Nothing above the limit is left. -/
theorem C07_nothing_above {α} (lim : Rat) (data : List (Hit α)) : ∀ h ∈ cropRows lim data, aboveLim lim h = false := by
  intro h hm
  rw [cropRows_eq, List.mem_filterMap] at hm
  obtain ⟨h0, _, hc⟩ := hm
  exact aboveLim_cropOne lim h0 h hc

/-- Changing heights above the limit to other values above it changes neither the cropped frame nor the flag. -/
theorem C07_height_irrelevant {α} (P : Prms α) (d d' : List (Hit α)) (m : Rat) (hm : P.msa = some m)
    (h : List.Forall₂ (SameButAbove (m + P.msaBuf)) d d') : crop P d = crop P d' := by
  simp only [crop, hm]
  rw [(cropRows_count_same _ d d' h).1, (cropRows_count_same _ d d' h).2]

/-- Cropping is idempotent: replacing the hits above the limit by non-detections beforehand, which is `cropRows d`,
gives the same cropped frame. -/
theorem C07_nondetection_equiv {α} (P : Prms α) (d : List (Hit α)) (m : Rat) (hm : P.msa = some m) :
    (crop P (cropRows (m + P.msaBuf) d)).1 = (crop P d).1 := by
  simp only [crop, hm]
  exact cropRows_idem _ d

/-- Altering heights above the limit changes nothing downstream: `run` returns the same chunk. -/
theorem C07_tables_equal {α} [DecidableEq α] (K : Kern) (P : PPrms α) (d d' : List (Hit α)) (m : Rat)
    (hm : P.msa = some m) (h : List.Forall₂ (SameButAbove (m + P.msaBuf)) d d') :
    run K P d = run K P d' := by
  rw [run_eq, run_eq, C07_height_irrelevant P.toPrms d d' m hm h]

/-- A chunk constructed from `cropRows d` holds the same data as one constructed from `d`; its flag may differ
(NCD versus NSC). -/
theorem C07_tables_equal_nondet {α} [DecidableEq α] (K : Kern) (P : PPrms α) (d : List (Hit α)) (m : Rat)
    (hm : P.msa = some m) :
    (construct P (cropRows (m + P.msaBuf) d)).data = (construct P d).data := by
  unfold construct
  have := C07_nondetection_equiv P.toPrms d m hm
  simp only [this]

/-- Non-vacuity: a second hit above the limit is dropped, a first hit blanked, a hit at the limit kept. -/
example : cropRows 1000 [⟨"a", 0, some 1000, 1⟩, ⟨"a", 1, some 1001, 1⟩, ⟨"a", 1, some 2000, 2⟩] =
    [⟨"a", 0, some 1000, 1⟩, ⟨"a", 1, none, 0⟩] := by decide +kernel

end Ampy
