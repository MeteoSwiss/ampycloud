import Ampy.Lemmas.Rename
/-!
# C16 — ceilometer names are labels only: renaming them changes nothing

The model is polymorphic in the name type `α` with `[DecidableEq α]` only: it *cannot* sort, hash or
slice names.  Third-party kernels never receive names (their arguments are name-free), so the same
kernel answers apply on both sides of the renaming.
-/
namespace Ampy

/-- For every injective renaming `f` (applied to the exclusion list as well) the whole cascade
commutes with `f`: identical id columns, identical tables (they contain no names), identical flag. -/
theorem C16_equivariant {α β} [DecidableEq α] [DecidableEq β] (f : α → β) (hf : Function.Injective f)
    (K : Kern) (P : PPrms α) (checked : List (Hit α)) :
    run K (P.mapCeilo f) (checked.map (Hit.mapCeilo f)) = (run K P checked).map (Chunk.mapCeilo f) := by
  unfold run
  simp only [construct_mapCeilo, findSlices_mapCeilo f hf]
  cases findSlices K P (construct P checked) with
  | error e => rfl
  | ok c1 =>
    simp only [map_ok, ok_bind, findGroups_mapCeilo f hf]
    cases findGroups K P c1 with
    | error e => rfl
    | ok c2 =>
      simp only [map_ok, ok_bind, findLayers_mapCeilo f hf]

/-- For an injective renaming, the renamed input runs to a chunk with the same three tables, the same three id
columns and the same flag as the original run. -/
theorem C16_tables {α β} [DecidableEq α] [DecidableEq β] (f : α → β) (hf : Function.Injective f)
    (K : Kern) (P : PPrms α) (checked : List (Hit α)) (c : Chunk α) (h : run K P checked = .ok c) :
    ∃ c', run K (P.mapCeilo f) (checked.map (Hit.mapCeilo f)) = .ok c' ∧
      c'.slices = c.slices ∧ c'.groups = c.groups ∧ c'.layers = c.layers ∧
      c'.sids = c.sids ∧ c'.gids = c.gids ∧ c'.lids = c.lids ∧ c'.flag = c.flag := by
  refine ⟨Chunk.mapCeilo f c, ?_, rfl, rfl, rfl, rfl, rfl, rfl, rfl⟩
  rw [C16_equivariant f hf K P checked, h]; rfl

/-- Renaming the parameters leaves the MSA as it is, so `metarMsg` with the renamed parameters' MSA returns the same
string for the same flag, count and table.  (The chunk argument does not occur in the statement.) -/
theorem C16_messages {α β} (f : α → β) (P : PPrms α) (c : Chunk α) (flag : Bool) (n : Nat) (t : Table) :
    metarMsg (P.mapCeilo f).msa flag n t = metarMsg P.msa flag n t := rfl

/-- `metarize` on injectively renamed data and parameters returns the same table, for every level and id column. -/
theorem C16_metarize {α β} [DecidableEq α] [DecidableEq β] (f : α → β) (hf : Function.Injective f)
    (K : MetK) (P : Prms α) (w : Which) (ld : Bool) (data : List (Hit α)) (ids : List Int) :
    metarize K (P.mapCeilo f) w ld (data.map (Hit.mapCeilo f)) ids = metarize K P w ld data ids :=
  metarize_mapCeilo f hf K P w ld data ids

end Ampy
