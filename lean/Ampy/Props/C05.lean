import Ampy.Lemmas.Run
/-!
# C05 — every hit is accounted for exactly once at every stage

About `run` (`ampycloud.run` after the consistency check), for every hit list, every parameter set and every
third-party answer of the right shape (`KernOK`: one label per point, components numbered below `n`, sorts permute).
-/
namespace Ampy

/-- After a run every hit with a valid height has an id `≥ 0` at each of the three levels (ids are functions of the
hit, so "exactly one" is "defined"), and every non-detection has `-1`. -/
theorem C05_every_hit_assigned {α} [DecidableEq α] (K : Kern) (P : PPrms α) (checked : List (Hit α))
    (hK : KernOK K P.basePerc) (c : Chunk α) (h : run K P checked = .ok c) :
    ∃ sids gids lids, c.sids = some sids ∧ c.gids = some gids ∧ c.lids = some lids ∧
      IdsExact c.data sids ∧ IdsExact c.data gids ∧ IdsExact c.data lids := by
  obtain ⟨t, hp⟩ := run_parts K P checked c h
  exact ⟨t.sids, t.gids, t.lids, hp.sids_eq, hp.gids_eq, hp.lids_eq, hp.sidsExact hK, hp.gidsExact hK, hp.lidsExact hK⟩

/-- The three tables list exactly the ids present in the per-hit columns, each once, and `n_slices`, `n_groups`,
`n_layers` are their lengths. -/
theorem C05_tables_list_sets {α} [DecidableEq α] (K : Kern) (P : PPrms α) (checked : List (Hit α))
    (hK : KernOK K P.basePerc) (c : Chunk α) (h : run K P checked = .ok c) :
    ∃ sids gids lids sl gr lay,
      c.sids = some sids ∧ c.gids = some gids ∧ c.lids = some lids ∧
      c.slices = some sl ∧ c.groups = some gr ∧ c.layers = some lay ∧
      (sl.map (·.cid)).Perm (clusterIds sids) ∧ nWhich sids = sl.length ∧
      (gr.map (·.cid)).Perm (clusterIds gids) ∧ nWhich gids = gr.length ∧
      (lay.map (·.cid)).Perm (clusterIds lids) ∧ nWhich lids = lay.length := by
  obtain ⟨t, hp⟩ := run_parts K P checked c h
  have q1 : ((setIsolated t.sl t.iso).map (·.cid)).Perm (clusterIds t.sids) :=
    setIsolated_map_cid t.sl t.iso ▸ metarize_cids K.toMetK P.toPrms .slices false c.data t.sids hK.met t.sl hp.slices
  have q2 : ((setNcomp t.gr t.nc).map (·.cid)).Perm (clusterIds t.gids) :=
    setNcomp_map_cid t.gr t.nc ▸ metarize_cids K.toMetK P.toPrms .groups false c.data t.gids hK.met t.gr hp.groups
  have q3 := metarize_cids K.toMetK P.toPrms .layers true c.data t.lids hK.met t.lay hp.layers
  exact ⟨t.sids, t.gids, t.lids, _, _, t.lay, hp.sids_eq, hp.gids_eq, hp.lids_eq, hp.slices_eq, hp.groups_eq,
    hp.layers_eq, q1, nWhich_eq_length t.sids (hp.sidsExact hK).toOK.ge _ q1,
    q2, nWhich_eq_length t.gids (hp.gidsExact hK).toOK.ge _ q2,
    q3, nWhich_eq_length t.lids (hp.lidsExact hK).toOK.ge _ q3⟩

/-- Each layer lies inside one group: hits with equal layer ids have equal group ids (also with 100 or more slices:
generated ids start above the largest group id). -/
theorem C05_layers_refine_groups {α} [DecidableEq α] (K : Kern) (P : PPrms α) (checked : List (Hit α))
    (hK : KernOK K P.basePerc) (c : Chunk α) (h : run K P checked = .ok c)
    (gids lids : List Int) (hg : c.gids = some gids) (hl : c.lids = some lids) :
    ∀ p₁ ∈ lids.zip gids, ∀ p₂ ∈ lids.zip gids, p₁.1 = p₂.1 → p₁.2 = p₂.2 := by
  obtain ⟨t, hp⟩ := run_parts K P checked c h
  obtain rfl : t.gids = gids := Option.some.inj (hp.gids_eq.symm.trans hg)
  obtain rfl : t.lids = lids := Option.some.inj (hp.lids_eq.symm.trans hl)
  exact layers_refine_groups K P c.data hK t.gids t.gr (hp.gidsExact hK) t.lids t.nc hp.layer

/-- A group reported with `k` sub-components yields exactly `k` layers, one if it was not split. -/
theorem C05_k_components {α} [DecidableEq α] (K : Kern) (P : PPrms α) (checked : List (Hit α))
    (hK : KernOK K P.basePerc) (c : Chunk α) (h : run K P checked = .ok c)
    (gids lids : List Int) (gr : Table) (hg : c.gids = some gids) (hl : c.lids = some lids) (hgr : c.groups = some gr) :
    ∀ g ∈ gr, ∃ k, g.ncomp = some k ∧
      (((lids.zip gids).filter (·.2 = g.cid)).map (·.1)).eraseDups.length = (if k ≥ 1 then k.toNat else 1) := by
  obtain ⟨t, hp⟩ := run_parts K P checked c h
  obtain rfl : t.gids = gids := Option.some.inj (hp.gids_eq.symm.trans hg)
  obtain rfl : t.lids = lids := Option.some.inj (hp.lids_eq.symm.trans hl)
  obtain rfl : setNcomp t.gr t.nc = gr := Option.some.inj (hp.groups_eq.symm.trans hgr)
  have p2 := metarize_cids K.toMetK P.toPrms .groups false c.data t.gids hK.met t.gr hp.groups
  have hmem : ∀ g ∈ t.gr, g.cid ∈ t.gids := fun g hgm =>
    ((mem_clusterIds t.gids g.cid).mp (p2.mem_iff.mp (List.mem_map_of_mem hgm))).1
  intro g hgm
  obtain ⟨ind, hind⟩ := List.getElem?_of_mem hgm
  obtain ⟨r₀, k, hr₀, hnc, rfl⟩ := setNcomp_entry t.gr t.nc
    (layerIds_ncomps_length K P c.data t.gids t.gr t.lids t.nc hp.layer) ind g hind
  exact ⟨k, rfl, ncomp_layers K P c.data hK t.gids t.gr (hp.gidsExact hK)
    (p2.nodup_iff.mpr (clusterIds_nodup t.gids)) hmem t.lids t.nc hp.layer ind r₀ hr₀ k hnc⟩

/-- No hit is created, lost or altered: the chunk's data is the cropped input (C07 says what cropping does),
untouched by the three stages. -/
theorem C05_hits_preserved {α} [DecidableEq α] (K : Kern) (P : PPrms α) (checked : List (Hit α))
    (c : Chunk α) (h : run K P checked = .ok c) :
    c.data = (crop P.toPrms checked).1 ∧ c.flag = (crop P.toPrms checked).2 :=
  let ⟨_, hp⟩ := run_parts K P checked c h
  ⟨hp.data, hp.flag⟩

end Ampy
