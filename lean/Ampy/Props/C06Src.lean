import Ampy.Props.C06
import Ampy.GenEq.MinSep
/-!
# C06 on the source: the separation for a height

`Gen.get_min_sep_for_height` is regenerated from `CeiloChunk._get_min_sep_for_height` on every run (DESIGN.md §11.10), with
`MIN_SEP_LIMS` and `MIN_SEP_VALS` as parameters.
-/
namespace Ampy
open Ampy.Py

theorem C06_src_minsep_is_model {α} (P : Prms α) (h : Rat) :
    GenEq.sameOutcome (Gen.get_min_sep_for_height P.minSepLims P.minSepVals h) (minSepFor P h) :=
  GenEq.get_min_sep_for_height_eq P h

/-- On the source: with `MIN_SEP_VALS` one longer than `MIN_SEP_LIMS` the separation for a height is the entry of its bin
(the number of limits strictly below it: `searchsorted`, left side), never an `IndexError`. -/
theorem C06_src_minsep_bin {α} (P : Prms α) (hs : SepShape P) (h : Rat) :
    ∃ v, Gen.get_min_sep_for_height P.minSepLims P.minSepVals h = .ok v ∧ v ∈ P.minSepVals ∧
      P.minSepVals[(P.minSepLims.filter (· < h)).length]? = some v := by
  obtain ⟨v, hv, hmi⟩ := C06_minsep_bin P hs h
  exact ⟨v, GenEq.sameOutcome_ok (hv ▸ C06_src_minsep_is_model P h), hmi⟩

/-- On the source: when `MIN_SEP_VALS` is not one longer than `MIN_SEP_LIMS` the call raises an `AmpycloudError`. -/
theorem C06_src_minsep_refuses {α} (P : Prms α) (hs : ¬ SepShape P) (h : Rat) :
    ∃ why, Gen.get_min_sep_for_height P.minSepLims P.minSepVals h = .error (.ampy why) := by
  obtain ⟨w, hw⟩ := C06_minsep_refuses P hs h
  exact GenEq.sameOutcome_ampy (hw ▸ C06_src_minsep_is_model P h)

/-- The default bins on both sides of, and exactly at, the 10000-ft limit. -/
example : Gen.get_min_sep_for_height [10000] [250, 1000] 9999 = .ok 250 ∧
    Gen.get_min_sep_for_height [10000] [250, 1000] 10000 = .ok 250 ∧
    Gen.get_min_sep_for_height [10000] [250, 1000] 10001 = .ok 1000 := by decide +kernel

end Ampy
