import Ampy.Lemmas.Merge
import Ampy.Lemmas.LayerOutcome
import Ampy.Lemmas.EndToEnd
import Ampy.Lemmas.LayerSep
/-!
# C06 — groups, and layers split from one group, respect the minimum separation

`minSepFor` models `_get_min_sep_for_height`, `mergeLoop`/`mergeCloseGroups` model `_merge_close_groups` (the merged
base is computed with the same exclusions as the reported one), `remerge` the re-merge pass of `layer.ncomp_from_gmm`.
The statements hold for every percentile, look-back, exclusion list and order the sorts return.
-/
namespace Ampy

/-- The separation for a height is the `MIN_SEP_VALS` entry numbered by how many `MIN_SEP_LIMS` lie below it
(`searchsorted`, left side, when the limits ascend); the length check is the only refusal. -/
theorem C06_minsep_bin {α} (P : Prms α) (hs : SepShape P) (h : Rat) :
    ∃ v, minSepFor P h = .ok v ∧ v ∈ P.minSepVals ∧
      P.minSepVals[(P.minSepLims.filter (· < h)).length]? = some v :=
  let ⟨v, hv, _, h2, h3⟩ := (minSepFor_sat P h).exists_ok fun _ he => he.1 hs
  ⟨v, hv, h2, h3⟩

theorem C06_minsep_refuses {α} (P : Prms α) (hs : ¬ SepShape P) (h : Rat) :
    ∃ why, minSepFor P h = .error (.ampy why) := by
  cases hm : minSepFor P h with
  | ok v => exact absurd ((minSepFor_sat P h).of_ok hm).1 hs
  | error e =>
    obtain ⟨_, why, rfl⟩ := (minSepFor_sat P h).of_error hm
    exact ⟨why, rfl⟩

/-- Run with fuel `prelim.length`, the merge loop returns at its exit test (the fuel suffices): all pairs of the
returned prelim table are separated, every listed base is that of the group's final membership, and the table lists
exactly the groups present.  The list is *not* re-sorted after a merge; the proof does not assume it is. -/
theorem C06_merge_exit {α} [DecidableEq α] (K : Kern) (P : PPrms α) (data : List (Hit α))
    (hs : SepShape P.toPrms) (hn : SepNonneg P.toPrms)
    (gids : List Int) (prelim : List (Int × Rat))
    (hcur : BasesCurrent K P data gids prelim) (hcids : (prelim.map (·.1)).Perm (clusterIds gids))
    (gids' : List Int) (prelim' : List (Int × Rat))
    (h : mergeLoop K P data prelim.length gids prelim = .ok (gids', prelim')) :
    Separated P.toPrms (prelim'.map (·.2)) ∧ BasesCurrent K P data gids' prelim' ∧
    (prelim'.map (·.1)).Perm (clusterIds gids') := by
  obtain ⟨_, h1, h2⟩ := (mergeLoop_sat K P data (I := fun _ => True) (fun _ _ _ _ _ _ => trivial) _ gids prelim
    (le_refl _) hcur hcids trivial).of_ok h
  exact ⟨separated_of_none P.toPrms hs hn _ h1, h2⟩

/-- Any two reported groups have bases at least the minimum separation of the upper one's bin apart, exclusions or not. -/
theorem C06_groups_separated {α} [DecidableEq α] (K : Kern) (P : PPrms α) (data : List (Hit α))
    (hK : KernOK K P.basePerc) (hs : SepShape P.toPrms) (hn : SepNonneg P.toPrms)
    (gids gids' : List Int) (h : mergeCloseGroups K P data gids = .ok gids')
    (t : Table) (ht : metarize K.toMetK P.toPrms .groups false data gids' = .ok t) :
    ∀ r₁ ∈ t, ∀ r₂ ∈ t, r₁.cid ≠ r₂.cid → r₁.base ≤ r₂.base →
      ∃ s, minSepFor P.toPrms r₂.base = .ok s ∧ r₂.base - r₁.base ≥ s :=
  groups_table_separated K P data hK hs hn gids gids' h t ht

/-- When the re-merge pass merged nothing, any two sorted component bases are at least `minSep` apart. -/
theorem C06_components_separated {minSep : Rat} (h0 : 0 ≤ minSep) (sortedBases : List Rat) (order ids : List Nat)
    (n : Nat) (hlen : order.length = sortedBases.length) (hn : sortedBases.length ≤ n + 0)
    (h : (remerge minSep sortedBases order ids n).2 = n) :
    ∀ i j (_ : i < j) (hj : j < sortedBases.length), sortedBases[j] - sortedBases[i]'(by omega) ≥ minSep :=
  fun i j hij hj => (remerge_unmerged sortedBases order ids n hlen (by omega) h).2 h0 i j hij hj

/-- The re-merge pass never reports more components than the mixture found. -/
theorem C06_remerge_le (minSep : Rat) (sortedBases : List Rat) (order ids : List Nat) (n : Nat) :
    (remerge minSep sortedBases order ids n).2 ≤ n :=
  remerge_le minSep sortedBases order ids n

/-- Report-time base = decision-time base for the layers split from a group (no ceilometer excluded): `metarize('layers')`
hands `calc_base_height`, for layer `off + 10·ind + k`, the values of mixture component `k` in the order
`ncomp_from_gmm` saw them (it gets the heights in time order) — for every row order, look-back and percentile. -/
theorem C06_layer_base_is_component_base {α} [DecidableEq α] (K : Kern) (P : PPrms α) (hK : KernOK K P.basePerc)
    (data : List (Hit α)) (gids : List Int) (groups : Table) (hg : IdsExact data gids)
    (hcid : (groups.map (·.cid)).Nodup) (hex : P.exclude = [])
    (lids ncomps : List Int) (h : layerIds K P data gids groups = .ok (lids, ncomps))
    (ind : Nat) (g : Row) (hgi : groups[ind]? = some g) (n : Nat) (hn : ncomps[ind]? = some (n : Int)) (hn2 : 2 ≤ n)
    (minSep : Rat) (hms : minSepFor P.toPrms g.base = .ok minSep) (ids : List Nat)
    (hgmm : ncompFromGmm K P (groupHeights K data gids g.cid)
              (min ((groupHeights K data gids g.cid).eraseDups).length 3) minSep = .ok (n, ids))
    (k : Nat) (hk : k < n) :
    calcBase K.pctl (selectSorted K.toMetK data
        (baseMask P.toPrms data lids (lidOffset gids + 10 * (ind : Int) + (k : Int)))) P.lookback P.basePerc =
    calcBase K.pctl (((groupHeights K data gids g.cid).zip ids).filterMap fun (v, l) => if l = k then some v else none)
        P.lookback P.basePerc := by
  have S : SplitGroup K P data gids groups lids ncomps ind g n minSep ids :=
    { kern := hK, exact := hg, nodup := hcid, layers := h, row := hgi, entry := hn, two := hn2, sep := hms, call := hgmm }
  rw [S.selection hex k hk]
  rfl

/-- End to end (first clause of C06): the groups table of every chunk `run` returns is pairwise separated by the minimum
separation of the upper group's bin, for every accepted input and non-negative `MIN_SEP_VALS`. -/
theorem C06_run_groups_separated {α} [DecidableEq α] (K : Kern) (P : PPrms α) (checked : List (Hit α))
    (hA : Accepted K P checked) (hn : SepNonneg P.toPrms) (c : Chunk α) (h : run K P checked = .ok c)
    (gr : Table) (hg : c.groups = some gr) :
    ∀ r₁ ∈ gr, ∀ r₂ ∈ gr, r₁.cid ≠ r₂.cid → r₁.base ≤ r₂.base →
      ∃ s, minSepFor P.toPrms r₂.base = .ok s ∧ r₂.base - r₁.base ≥ s :=
  run_groups_separated K P checked hA hn c h gr hg

/-- Decision level of the second clause: if `ncomp_from_gmm` reports as many components as the mixture it selected has
(nothing re-merged), the base heights of any two components are at least `min_sep` apart. -/
theorem C06_unmerged_components_separated {α} (K : Kern) (P : PPrms α) (hK : KernOK K P.basePerc)
    (vals : List Rat) (m : Nat) (minSep : Rat) (h0 : 0 ≤ minSep)
    (n : Nat) (ids : List Nat) (h : ncompFromGmm K P vals m minSep = .ok (n, ids)) (hn2 : 2 ≤ n)
    (f : GmmFit) (hsel : selectedFit K P vals m = some (n, f)) :
    ∀ i j, i < n → j < n → i ≠ j → ∀ bi bj,
      calcBase K.pctl (compVals vals ids i) P.lookback P.basePerc = .ok bi →
      calcBase K.pctl (compVals vals ids j) P.lookback P.basePerc = .ok bj →
      bi ≤ bj → bj - bi ≥ minSep :=
  ncompFromGmm_unmerged_separated K P hK vals m minSep h0 n ids h hn2 f hsel

/-- End to end (second clause of C06): in the layers table `run` returns, the layers of a group split into as many layers
as the selected mixture has (`selectedFit … = some (n, _)`, `n` the reported `ncomp`: nothing re-merged) are pairwise at
least that group's minimum separation apart, when no ceilometer is excluded. -/
theorem C06_run_split_layers_separated {α} [DecidableEq α] (K : Kern) (P : PPrms α) (checked : List (Hit α))
    (hA : Accepted K P checked) (hsn : SepNonneg P.toPrms) (hex : P.exclude = [])
    (c : Chunk α) (h : run K P checked = .ok c)
    (gids : List Int) (gr lay : Table) (hgi : c.gids = some gids) (hg : c.groups = some gr) (hl : c.layers = some lay)
    (ind : Nat) (g : Row) (hgr : gr[ind]? = some g) (n : Nat) (hnc : g.ncomp = some (n : Int)) (hn2 : 2 ≤ n)
    (minSep : Rat) (hms : minSepFor P.toPrms g.base = .ok minSep)
    (f : GmmFit)
    (hsel : selectedFit K P (groupHeights K c.data gids g.cid)
      (min ((groupHeights K c.data gids g.cid).eraseDups).length 3) = some (n, f)) :
    ∀ r₁ ∈ lay, ∀ r₂ ∈ lay, ∀ k₁ k₂, k₁ < n → k₂ < n → k₁ ≠ k₂ →
      r₁.cid = lidOffset gids + 10 * (ind : Int) + (k₁ : Int) →
      r₂.cid = lidOffset gids + 10 * (ind : Int) + (k₂ : Int) →
      r₁.base ≤ r₂.base → r₂.base - r₁.base ≥ minSep := by
  obtain ⟨groups, lids, ncomps, r₀, ids, _, rfl, hlay, S⟩ :=
    run_splitGroup K P checked hA.kern c h gids gr lay hgi hg hl ind g hgr n hnc hn2 minSep hms
  -- the separation is a non-negative entry of MIN_SEP_VALS
  exact (S.layers_apart hsel hex (hsn _ ((minSepFor_sat P.toPrms r₀.base).of_ok hms).2.1) hlay).1

end Ampy
