import Ampy.Spec.C17
import Ampy.Props.C17
import Ampy.Lemmas.MonitorRows
import Ampy.Lemmas.MonitorMsg
import Ampy.Lemmas.MonitorRun
/-!
# Soundness of the run-time monitor

The driver evaluates the predicates of `Ampy/Spec/*.lean` on what the *implementation* produced.  These theorems show
that they demand nothing the model does not deliver: on the model's own output no clause fires, for every accepted
input.  A predicate stricter than the property cannot pass this file: the split-layers clause of `Spec.c06` guarded by
the reported `ncomp` alone does not (`Lemmas/MonitorRun.lean`).  Names carry the property id, so each property's axiom
audit covers its monitor theorem.
-/
namespace Ampy

/-- The model's flags satisfy the 1-3-5 predicate `Spec.c17`, for every okta sequence. -/
theorem C17_monitor_sound (os : List Int) : Spec.c17 os (significantCloud os) = true := by
  unfold Spec.c17
  simp only [Bool.and_eq_true, beq_iff_eq, List.all_eq_true, List.mem_range]
  refine ⟨C17_length os, fun i hi => ?_⟩
  rw [List.getElem?_eq_getElem hi, List.getElem?_eq_getElem (by rw [C17_length]; exact hi)]
  simp only [beq_iff_eq]
  rw [Bool.eq_iff_iff, C17_char os i hi, Bool.and_eq_true, decide_eq_true_eq, decide_eq_true_eq]

/-- The model's okta for `n` hits out of `m` passes `Spec.c18okta`: 0 for no hit, 8 for all, else a nearest integer to
`8n/m` clipped to `1..7`. -/
theorem C18_monitor_sound_okta (n m : Nat) (hm : 0 < m) (h : n ≤ m) (k : Int) (hk : perc2oktaNM n m = .ok k) :
    Spec.c18okta n m k = true := by
  cases Except.ok.inj ((C18_nm_ok n m hm h).symm.trans hk)
  exact c18okta_oktaOfPerc n m hm h

/-- The row `n = 0..m` of the model's oktas passes `Spec.c18row`: every entry acceptable, none below its predecessor. -/
theorem C18_monitor_sound_row (m : Nat) (hm : 0 < m) (ks : List Int) (hks : ks.length = m + 1)
    (h : ∀ n (hn : n < m + 1), perc2oktaNM n m = .ok (ks[n]'(by omega))) : Spec.c18row m ks = true := by
  have key : ∀ n (hn : n < m + 1), ks[n]'(by omega) = oktaOfPerc ((n : Rat) / (m : Rat) * 100) := fun n hn =>
    (Except.ok.inj ((C18_nm_ok n m hm (by omega)).symm.trans (h n hn))).symm
  unfold Spec.c18row
  simp only [Bool.and_eq_true, beq_iff_eq, List.all_eq_true, List.mem_range]
  refine ⟨⟨hks, fun n hn => ?_⟩, fun n hn => ?_⟩
  · rw [List.getElem?_eq_getElem (by omega)]
    simp only
    rw [key n hn]
    exact c18okta_oktaOfPerc n m hm (by omega)
  · rw [List.getElem?_eq_getElem (by omega), List.getElem?_eq_getElem (by omega)]
    simp only [decide_eq_true_eq]
    rw [key n (by omega), key (n + 1) (by omega)]
    exact C18_mono n (n + 1) m hm (by omega) (by omega)

/-- The model's height code passes `Spec.c18height` on `[0, 10^5)` ft: three digits, floored to 100 ft (1000 ft above
10000 ft). -/
theorem C18_monitor_sound_height (h : Rat) (h0 : 0 ≤ h) (h1 : h < 100000) :
    Spec.c18height h (height2code (some h)) = true :=
  spec_c18height_sound h h0 h1

/-- On a `TableOK` table carrying the model's message no clause of `Spec.c01` fires (clause lemmas in the order of the
predicate). -/
theorem C01_monitor_sound (msa : Option Rat) (flag : Bool) (t : Table) (h : TableOK t) :
    Spec.c01 msa t (metarMsg msa flag t.length t) = [] := by
  unfold Spec.c01
  simp only [List.append_eq_nil_iff, fails_eq_nil, groupsOf_msg msa flag t h]
  exact ⟨⟨⟨⟨⟨c01_clause_grammar msa flag t h, c01_clause_height_order msa t h⟩, c01_clause_second msa t h⟩,
    c01_clause_third msa t h⟩, c01_clause_listed msa t h⟩, beq_self_eq_true _⟩

/-- On a `TableOK` table carrying the model's message no clause of `Spec.c02` fires (clause lemmas in the order of the
predicate). -/
theorem C02_monitor_sound (msa : Option Rat) (flag : Bool) (t : Table) (h : TableOK t) :
    Spec.c02 msa flag t (metarMsg msa flag t.length t) = [] := by
  unfold Spec.c02
  simp only [List.append_eq_nil_iff, fails_eq_nil, groupsOf_msg msa flag t h]
  exact ⟨⟨⟨⟨c02_clause_lowest_first msa t h, c02_clause_ceiling msa t h⟩, c02_clause_layer_code msa t⟩,
    c02_clause_ncd msa flag t h⟩, c02_clause_nsc msa flag t h⟩

/-- On every table `metarize` builds no clause of `Spec.c03` fires: count, percentage, okta and code prefix of each row
are those of its member hits. -/
theorem C03_monitor_sound {α} [DecidableEq α] (K : MetK) (P : Prms α) (w : Which) (ld : Bool) (data : List (Hit α))
    (ids : List Int) (hK : MetKOK K P.basePerc) (h : IdsOK data ids) (ht0 : 0 ≤ P.t0) (t : Table)
    (ht : metarize K P w ld data ids = .ok t) : Spec.c03 P.t0 P.t8 data ids t = [] := by
  refine c03_nil_of_rowOf (K := K) fun r hr => ?_
  obtain ⟨hc, f⟩ := metarize_row K P w ld data ids hK t ht hr
  exact ⟨f, f.okta_range h hc⟩

/-- On every table `metarize` builds from hits in `[0, 10^5)` ft no clause of `Spec.c04` fires: sorted, base inside the
member heights, their statistics, non-negative fluffiness, floored code. -/
theorem C04_monitor_sound {α} [DecidableEq α] (K : MetK) (P : Prms α) (w : Which) (ld : Bool) (data : List (Hit α))
    (ids : List Int) (hK : MetKOK K P.basePerc) (h : IdsOK data ids) (hr : HeightsInRange data) (ht0 : 0 ≤ P.t0)
    (t : Table) (ht : metarize K P w ld data ids = .ok t) : Spec.c04 data ids t = [] := by
  have hok := metarize_tableOK K P w ld data ids hK h hr ht0 t ht
  refine c04_nil_of_rowOf (K := K) (P := P) hok.sorted fun r hrt => ?_
  obtain ⟨hc, f⟩ := metarize_row K P w ld data ids hK t ht hrt
  exact ⟨f, f.base_inside hK h hc ht0, hok.oktas r hrt, hok.bases r hrt⟩

/-- C05: on what `run` returns for an accepted input, no clause of the accounting predicate `Spec.c05` fires. -/
theorem C05_monitor_sound (K : Kern) (P : PPrms String) (checked : List (Hit String)) (c : Chunk String)
    (hA : Accepted K P checked) (h : run K P checked = .ok c) : Spec.c05 P.toPrms (obsOf checked c) = [] := by
  have hK := hA.kern
  obtain ⟨sl, sids, S⟩ := run_level K P checked hA c h .slices
  obtain ⟨gr, gids, G⟩ := run_level K P checked hA c h .groups
  obtain ⟨lay, lids, L⟩ := run_level K P checked hA c h .layers
  simp only [obsOf, S.slices_eq, G.groups_eq, L.layers_eq, Option.getD_some]
  exact c05_nil_of P.toPrms _ S.exact G.exact L.exact S.cids G.cids L.cids S.count G.count L.count
    (C05_layers_refine_groups K P checked hK c h gids lids G.ids L.ids)
    (C05_k_components K P checked hK c h gids lids gr G.ids L.ids G.table) (C05_hits_preserved K P checked c h).1

/-- C07: on what `run` returns, no clause of the cropping predicate `Spec.c07` fires (`Accepted` is not needed). -/
theorem C07_monitor_sound (K : Kern) (P : PPrms String) (checked : List (Hit String)) (c : Chunk String)
    (hA : Accepted K P checked) (h : run K P checked = .ok c) : Spec.c07 P.toPrms (obsOf checked c) = [] :=
  have _ := hA
  c07_nil_of_crop P.toPrms (obsOf checked c) (C05_hits_preserved K P checked c h).1 (C05_hits_preserved K P checked c h).2

/-- C06, both clauses: handed the number of components of the selected mixture before re-merging (`rawComponents`, which
tells "split into as many layers as the mixture distinguishes" from a re-merged split), the separation predicate
`Spec.c06` raises nothing on what `run` returns for an accepted input with non-negative `MIN_SEP_VALS`. -/
theorem C06_monitor_sound (K : Kern) (P : PPrms String) (checked : List (Hit String)) (c : Chunk String)
    (hA : Accepted K P checked) (h : run K P checked = .ok c) (hsn : SepNonneg P.toPrms) :
    Spec.c06 P.toPrms (obsOf checked c)
      ((c.groups.getD []).map fun g => rawComponents K P c.data (c.gids.getD []) g) = [] :=
  spec_c06_sound K P checked c hA h hsn

/-- C06, first clause alone: the group bases `run` reports are pairwise separated in the sense of `Spec.pairwiseSep`
with the minimum separation of the upper group's bin. -/
theorem C06_monitor_sound_groups (K : Kern) (P : PPrms String) (checked : List (Hit String)) (c : Chunk String)
    (hA : Accepted K P checked) (h : run K P checked = .ok c) (hsn : SepNonneg P.toPrms) :
    Spec.pairwiseSep (Spec.minSepOf P.toPrms) ((obsOf checked c).groups.map (·.base)) = true :=
  spec_c06_groups_sound K P checked c hA h hsn

end Ampy
