import Ampy.Lemmas.Msg
import Ampy.Lemmas.EndToEnd
/-!
# C02 — lowest layer and ceiling are never suppressed; NCD / NSC mean what they say

For every `TableOK` table, MSA and high-cloud flag (C07: raised exactly when the hits cropped above MSA + buffer
exceed MAX_HITS_OKTA0).
-/
namespace Ampy

/-- The first group is the lowest layer of 1 okta or more below the MSA. -/
theorem C02_lowest_first (msa : Option Rat) (t : Table) (h : TableOK t) (hL : cloudBelow msa t ≠ []) :
    (reported msa t).head? = (cloudBelow msa t).head? := by
  obtain ⟨x, xs, hx⟩ := List.exists_cons_of_ne_nil hL
  have hf : (cloudBelow msa t).head? = some x := by rw [hx]; rfl
  rw [hf]
  rw [cloudBelow, List.head?_filter] at hf
  obtain ⟨as, bs, rfl, hlow, hs, hb⟩ := first_reaching h (k := 0) (Nat.zero_le 2) hf
  rw [reported, List.head?_filter, List.find?_eq_some_iff_append]
  refine ⟨by rw [hs, hb]; rfl, as, bs, rfl, fun a ha => ?_⟩
  -- a row under the lowest cloud layer has no okta, so it carries no flag
  cases hsa : a.significant with
  | false => rfl
  | true =>
    have := Flagged.okta_pos h.flags (List.mem_append_left _ ha) hsa
    have := hlow a ha
    omega

/-- The ceiling (lowest layer of 5 oktas or more below the MSA) is among the groups. -/
theorem C02_ceiling (msa : Option Rat) (t : Table) (h : TableOK t) (r : Row)
    (hr : (t.filter fun r => decide (r.okta ≥ 5) && belowMsa msa r.base).head? = some r) :
    r ∈ reported msa t := by
  rw [List.head?_filter] at hr
  obtain ⟨as, bs, rfl, -, hs, hb⟩ := first_reaching h (k := 2) (Nat.le_refl 2) hr
  exact List.mem_filter.mpr ⟨List.mem_append_right _ List.mem_cons_self, by rw [hs, hb]; rfl⟩

/-- Every reported row is a row of the table (with `C01_groups_are_rep`: every group is a listed layer's code). -/
theorem C02_groups_are_layers (msa : Option Rat) (t : Table) :
    ∀ r ∈ reported msa t, r ∈ t :=
  fun r hr => (List.mem_filter.mp hr).1

/-- `NCD` exactly when no layer reaches 1 okta and the high-cloud flag is down. -/
theorem C02_NCD_iff (msa : Option Rat) (flag : Bool) (t : Table) (h : TableOK t) :
    metarMsg msa flag t.length t = "NCD" ↔ (∀ r ∈ t, r.okta ≤ 0) ∧ flag = false := by
  -- "no layer of 1 okta" is "none below the MSA (nothing reported) and none above"
  rw [no_cloud_iff msa t, ← reported_nil_iff h, and_assoc, ← Bool.or_eq_false_iff]
  exact msg_fallback_iff msa flag h false

/-- `NSC` exactly when cloud exists (a layer of 1 okta or more at/above the MSA, or the
high-cloud flag) but none is reportable below the MSA. -/
theorem C02_NSC_iff (msa : Option Rat) (flag : Bool) (t : Table) (h : TableOK t) :
    metarMsg msa flag t.length t = "NSC" ↔
      cloudBelow msa t = [] ∧ ((∃ r ∈ t, r.okta ≥ 1 ∧ belowMsa msa r.base = false) ∨ flag = true) := by
  rw [← reported_nil_iff h]
  refine (msg_fallback_iff msa flag h true).trans (and_congr_right fun _ => ?_)
  simp only [Bool.or_eq_true, cloudAbove, List.any_eq_true, Bool.and_eq_true, decide_eq_true_eq, Bool.not_eq_true']

/-- On every level of every chunk `run` returns, the lowest layer of 1 okta or more below the MSA is reported first and
the ceiling is reported. -/
theorem C02_run_lowest_and_ceiling {α} [DecidableEq α] (K : Kern) (P : PPrms α) (checked : List (Hit α))
    (hA : Accepted K P checked) (c : Chunk α) (h : run K P checked = .ok c) (w : Which) :
    ∃ t, tableOf c w = some t ∧
      (cloudBelow P.msa t ≠ [] → (reported P.msa t).head? = (cloudBelow P.msa t).head?) ∧
      (∀ r, (t.filter fun r => decide (r.okta ≥ 5) && belowMsa P.msa r.base).head? = some r → r ∈ reported P.msa t) := by
  obtain ⟨t, ht, hok, _⟩ := run_msg K P checked hA c h w
  exact ⟨t, ht, C02_lowest_first P.msa t hok, C02_ceiling P.msa t hok⟩

/-- On what `run` returns: `NCD` exactly when no row reaches 1 okta and at most MAX_HITS_OKTA0 input hits lie above
MSA + buffer (or no MSA is set); `NSC` exactly when nothing is reportable below the MSA although a row of 1 okta or
more sits at/above it or more than MAX_HITS_OKTA0 input hits lie above MSA + buffer. -/
theorem C02_run_NCD_NSC {α} [DecidableEq α] (K : Kern) (P : PPrms α) (checked : List (Hit α))
    (hA : Accepted K P checked) (c : Chunk α) (h : run K P checked = .ok c) (w : Which) :
    ∃ t, tableOf c w = some t ∧
      (metarMsgOp P c w = .ok "NCD" ↔ (∀ r ∈ t, r.okta ≤ 0) ∧
        ¬ ∃ m, P.msa = some m ∧ (((checked.filter (aboveLim (m + P.msaBuf))).length : Nat) : Rat) > P.t0) ∧
      (metarMsgOp P c w = .ok "NSC" ↔ cloudBelow P.msa t = [] ∧
        ((∃ r ∈ t, r.okta ≥ 1 ∧ belowMsa P.msa r.base = false) ∨
         ∃ m, P.msa = some m ∧ (((checked.filter (aboveLim (m + P.msaBuf))).length : Nat) : Rat) > P.t0)) := by
  obtain ⟨t, ht, hok, hm⟩ := run_msg K P checked hA c h w
  have hf := run_flag_iff K P checked c h
  -- `run_flag_iff` turns the count of the input hits into `c.flag`
  refine ⟨t, ht, ?_, ?_⟩
  · rw [hm, Except.ok.injEq, C02_NCD_iff P.msa c.flag t hok, ← hf, Bool.not_eq_true]
  · rw [hm, Except.ok.injEq, C02_NSC_iff P.msa c.flag t hok, ← hf]

end Ampy
