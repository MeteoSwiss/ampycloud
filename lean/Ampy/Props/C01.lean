import Ampy.Lemmas.Msg
import Ampy.Lemmas.Metarize
import Ampy.Lemmas.EndToEnd
/-!
# C01 — the METAR-like message is well-formed and obeys the ICAO layer selection

About `metarMsg` (model of `CeiloChunk.metar_msg`) on every table satisfying `TableOK` (every table `metarize`
builds does: `metarize_tableOK`), every MSA and flag.  `n = t.length` is `n_slices/n_groups/n_layers` (C05).
-/
namespace Ampy

/-- The message is `NCD`, `NSC`, or one to three space-separated well-formed groups. -/
theorem C01_grammar (msa : Option Rat) (flag : Bool) (t : Table) (h : TableOK t) :
    metarMsg msa flag t.length t = "NCD" ∨ metarMsg msa flag t.length t = "NSC" ∨
    ∃ gs : List String, 1 ≤ gs.length ∧ gs.length ≤ 3 ∧ (∀ g ∈ gs, IsGroup g) ∧
      metarMsg msa flag t.length t = " ".intercalate gs := by
  rw [metarMsg_eq msa flag h]
  split
  · split
    · exact .inr (.inl rfl)
    · exact .inl rfl
  · rename_i hr
    refine .inr (.inr ⟨_, ?_, ?_, ?_, rfl⟩)
    · rw [List.length_map]; exact List.length_pos_iff.mpr hr
    · rw [List.length_map]; exact reported_length_le msa h
    · intro g hg
      obtain ⟨r, hr', rfl⟩ := List.mem_map.mp hg
      exact reported_isGroup h hr'

/-- When something is reportable, the message is the codes of the reported rows in table order, at most three. -/
theorem C01_groups_are_rep (msa : Option Rat) (flag : Bool) (t : Table) (h : TableOK t)
    (hr : reported msa t ≠ []) :
    metarMsg msa flag t.length t = " ".intercalate ((reported msa t).map (·.code)) ∧
    (reported msa t).length ≤ 3 :=
  ⟨by rw [metarMsg_eq msa flag h, if_neg hr], reported_length_le msa h⟩

/-- Groups appear in non-decreasing base order, hence in non-decreasing coded height. -/
theorem C01_order (msa : Option Rat) (t : Table) (h : TableOK t) :
    (reported msa t).Pairwise (fun a b => a.base ≤ b.base ∧ heightHundreds a.base ≤ heightHundreds b.base) :=
  (h.sorted.imp fun hab => ⟨hab, hh_mono hab⟩).filter _

/-- 1-3-5: the `i`-th reported row (0-based) has at least `2i+1` oktas. -/
theorem C01_135 (msa : Option Rat) (t : Table) (h : TableOK t) (i : Nat) (hi : i < (reported msa t).length) :
    ((reported msa t)[i]).okta ≥ 2 * (i : Int) + 1 :=
  (Flagged.getElem_filter h.flags _ i hi).2

/-- No group stands for a zero-okta layer. -/
theorem C01_no_zero (msa : Option Rat) (t : Table) (h : TableOK t) :
    ∀ r ∈ reported msa t, r.okta ≥ 1 :=
  fun _ hr => (reported_facts h hr).2.2.2

/-- No group stands for a layer whose base is at or above the MSA. -/
theorem C01_below_msa (m : Rat) (t : Table) : ∀ r ∈ reported (some m) t, r.base < m :=
  fun _ hr => of_decide_eq_true (Bool.and_eq_true_iff.mp (List.mem_filter.mp hr).2).2

/-- The code prefix of a reported row is the WMO abbreviation of its okta (never `NCD`). -/
theorem C01_prefix (msa : Option Rat) (t : Table) (h : TableOK t) :
    ∀ r ∈ reported msa t, ∃ p, okta2code (.int r.okta) = .ok (some p) ∧ p ∈ ["FEW", "SCT", "BKN", "OVC"] ∧
      r.code = p ++ height2code (some r.base) :=
  fun _ hr => code_of_pos h (reported_facts h hr).1 (reported_facts h hr).2.2.2

/-- One `metarize` call, id column as a hypothesis: the table satisfies `TableOK` and `n_slices/n_groups/n_layers`
is its length, so the theorems above apply to `metar_msg(which)` on it. -/
theorem C01_pipeline {α} [DecidableEq α] (K : MetK) (P : Prms α) (w : Which) (layersDone : Bool)
    (data : List (Hit α)) (ids : List Int) (hK : MetKOK K P.basePerc) (h : IdsOK data ids)
    (hr : HeightsInRange data) (ht0 : 0 ≤ P.t0) (t : Table)
    (ht : metarize K P w layersDone data ids = .ok t) :
    TableOK t ∧ nWhich ids = t.length := by
  refine ⟨metarize_tableOK K P w layersDone data ids hK h hr ht0 t ht, ?_⟩
  exact nWhich_eq_length ids h.ge t (metarize_cids K P w layersDone data ids hK t ht)

/-- The message of the table of one `metarize` call is well-formed (id column as a hypothesis). -/
theorem C01_pipeline_grammar {α} [DecidableEq α] (K : MetK) (P : Prms α) (w : Which) (layersDone flag : Bool)
    (data : List (Hit α)) (ids : List Int) (hK : MetKOK K P.basePerc) (h : IdsOK data ids)
    (hr : HeightsInRange data) (ht0 : 0 ≤ P.t0) (t : Table)
    (ht : metarize K P w layersDone data ids = .ok t) :
    let msg := metarMsg P.msa flag (nWhich ids) t
    msg = "NCD" ∨ msg = "NSC" ∨
    ∃ gs : List String, 1 ≤ gs.length ∧ gs.length ≤ 3 ∧ (∀ g ∈ gs, IsGroup g) ∧ msg = " ".intercalate gs := by
  obtain ⟨hok, hn⟩ := C01_pipeline K P w layersDone data ids hK h hr ht0 t ht
  simp only [hn]
  exact C01_grammar P.msa flag t hok

/-! The same clauses about what `ampycloud.run` returns: `Accepted` is the property's quantifier, no hypothesis about
tables or id columns is left. -/

/-- For every accepted input and level, `metar_msg(which)` of the chunk `run` returns is `NCD`, `NSC`, or one to three
well-formed groups. -/
theorem C01_run_grammar {α} [DecidableEq α] (K : Kern) (P : PPrms α) (checked : List (Hit α))
    (hA : Accepted K P checked) (c : Chunk α) (h : run K P checked = .ok c) (w : Which) :
    ∃ msg, metarMsgOp P c w = .ok msg ∧
      (msg = "NCD" ∨ msg = "NSC" ∨
       ∃ gs : List String, 1 ≤ gs.length ∧ gs.length ≤ 3 ∧ (∀ g ∈ gs, IsGroup g) ∧ msg = " ".intercalate gs) := by
  obtain ⟨t, _, hok, hm⟩ := run_msg K P checked hA c h w
  exact ⟨_, hm, C01_grammar P.msa c.flag t hok⟩

/-- For every accepted input and level: a non-empty report is the codes of the reported rows of the chunk's table, at
most three, in non-decreasing (coded) height, the `i`-th of at least `2i+1` oktas, none of zero okta, none at or above
the MSA. -/
theorem C01_run_selection {α} [DecidableEq α] (K : Kern) (P : PPrms α) (checked : List (Hit α))
    (hA : Accepted K P checked) (c : Chunk α) (h : run K P checked = .ok c) (w : Which) :
    ∃ t, tableOf c w = some t ∧
      (reported P.msa t ≠ [] →
        metarMsgOp P c w = .ok (" ".intercalate ((reported P.msa t).map (·.code))) ∧ (reported P.msa t).length ≤ 3) ∧
      (reported P.msa t).Pairwise (fun a b => a.base ≤ b.base ∧ heightHundreds a.base ≤ heightHundreds b.base) ∧
      (∀ i (hi : i < (reported P.msa t).length), ((reported P.msa t)[i]).okta ≥ 2 * (i : Int) + 1) ∧
      (∀ r ∈ reported P.msa t, r.okta ≥ 1) ∧
      (∀ m, P.msa = some m → ∀ r ∈ reported P.msa t, r.base < m) := by
  obtain ⟨t, ht, hok, hm⟩ := run_msg K P checked hA c h w
  refine ⟨t, ht, ?_, C01_order P.msa t hok, C01_135 P.msa t hok, C01_no_zero P.msa t hok, ?_⟩
  · intro hr
    obtain ⟨e, hl⟩ := C01_groups_are_rep P.msa c.flag t hok hr
    exact ⟨by rw [hm, e], hl⟩
  · intro m hmsa
    rw [hmsa]
    exact C01_below_msa m t

end Ampy
