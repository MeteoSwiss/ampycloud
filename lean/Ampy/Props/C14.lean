import Ampy.Lemmas.StageCanon
/-!
# C14 — any order of stage calls raises AmpycloudError or gives the canonical result

`step`/`runOps` (Model/Stage.lean) model the nine calls `find_slices`, `find_groups`, `find_layers`, `metarize(which)`,
`metar_msg(which)` on one chunk, with third-party kernels that are functions of their arguments.  The canonical states
are the fresh chunk and the states after each stage of the slices-groups-layers run.  The code refuses before it mutates
and `metarize('slices')` keeps the isolation status: hence the statements hold for every history.
-/
namespace Ampy

/-- A successful `run` goes through the canonical states. -/
theorem C14_canonical_exists {α} [DecidableEq α] (K : Kern) (P : PPrms α) (checked : List (Hit α)) (c : Chunk α)
    (h : run K P checked = .ok c) :
    ∃ S1 S2, Canon K P (construct P checked) S1 S2 c := by
  obtain ⟨c1, h1, h⟩ := bind_eq_ok.mp h
  obtain ⟨c2, h2, h3⟩ := bind_eq_ok.mp h
  exact ⟨c1, c2, ⟨rfl, rfl, rfl, rfl, rfl, rfl⟩, h1, h2, h3⟩

/-- One call from a canonical state ends in a canonical state; a refusal leaves the state intact and has a
documented reason; nothing but `AmpycloudError` is raised. -/
theorem C14_step {α} [DecidableEq α] (K : Kern) (P : PPrms α) (hK : KernOK K P.basePerc)
    (c0 S1 S2 S3 : Chunk α) (hC : Canon K P c0 S1 S2 S3) (c : Chunk α) (hc : IsCanon c0 S1 S2 S3 c) (op : Op) :
    IsCanon c0 S1 S2 S3 (step K P c op).1 ∧
    ((step K P c op).2 = .ampyError → (step K P c op).1 = c ∧ RefusalReason c op) ∧
    (∀ cls, (step K P c op).2 ≠ .crash cls) := by
  obtain ⟨p, hF, rfl, rfl, rfl, rfl⟩ := SC.full_of_canon hK hC
  obtain ⟨i, rfl⟩ := (SC.isCanon_iff c).mp hc
  obtain ⟨h1, h2⟩ := SC.step_T hF i op
  exact ⟨(SC.isCanon_iff _).mpr ⟨_, h1⟩,
    fun he => ⟨step_fst_of_ne_done _ _ (by rw [he]; simp), (SC.of_holds h2).1 he⟩, (SC.of_holds h2).2⟩

/-- Every history ends in a canonical state (so ids, tables and messages are those of the canonical run at the stage
reached) and raises nothing but `AmpycloudError`. -/
theorem C14_canonical {α} [DecidableEq α] (K : Kern) (P : PPrms α) (hK : KernOK K P.basePerc)
    (c0 S1 S2 S3 : Chunk α) (hC : Canon K P c0 S1 S2 S3) (ops : List Op) :
    IsCanon c0 S1 S2 S3 (runOps K P c0 ops).1 ∧ ∀ o ∈ (runOps K P c0 ops).2, ∀ cls, o ≠ .crash cls :=
  runOps_ind (fun c op hc => have h := C14_step K P hK c0 S1 S2 S3 hC c hc op; ⟨h.1, h.2.2⟩) c0 (Or.inl rfl) ops

/-- Repeating a permitted call is idempotent. -/
theorem C14_idempotent {α} [DecidableEq α] (K : Kern) (P : PPrms α) (hK : KernOK K P.basePerc)
    (c0 S1 S2 S3 : Chunk α) (hC : Canon K P c0 S1 S2 S3) (c : Chunk α) (hc : IsCanon c0 S1 S2 S3 c) (op : Op)
    (h : (step K P c op).2 = .done) :
    step K P (step K P c op).1 op = ((step K P c op).1, .done) := by
  obtain ⟨p, hF, rfl, rfl, rfl, rfl⟩ := SC.full_of_canon hK hC
  obtain ⟨i, rfl⟩ := (SC.isCanon_iff c).mp hc
  rw [(SC.step_T hF i op).1]
  exact SC.step_T_idem hF h

/-- Completed stages are never lost: a table that exists keeps existing along every history. -/
theorem C14_monotone {α} [DecidableEq α] (K : Kern) (P : PPrms α) (hK : KernOK K P.basePerc)
    (c0 S1 S2 S3 : Chunk α) (hC : Canon K P c0 S1 S2 S3) (c : Chunk α) (hc : IsCanon c0 S1 S2 S3 c) (ops : List Op) :
    (c.slices.isSome = true → (runOps K P c ops).1.slices.isSome = true) ∧
    (c.groups.isSome = true → (runOps K P c ops).1.groups.isSome = true) ∧
    (c.layers.isSome = true → (runOps K P c ops).1.layers.isSome = true) := by
  obtain ⟨p, hF, rfl, rfl, rfl, rfl⟩ := SC.full_of_canon hK hC
  obtain ⟨i, rfl⟩ := (SC.isCanon_iff c).mp hc
  obtain ⟨j, hj, e⟩ := SC.runOps_T hF i ops
  rw [e]
  exact SC.T_tables_mono p hj

/-- In every state, when `metar_msg(which)` returns a message the chunk is unchanged and the message is what
`metarMsgOp` computes from it. -/
theorem C14_message_of_state {α} [DecidableEq α] (K : Kern) (P : PPrms α) (c : Chunk α) (w : Which) (s : String)
    (h : (step K P c (.metarMsg w)).2 = .msg s) :
    (step K P c (.metarMsg w)).1 = c ∧ metarMsgOp P c w = .ok s := by
  rw [step_metarMsg] at h ⊢
  cases hm : metarMsgOp P c w with
  | ok s' => rw [hm] at h; exact ⟨rfl, congrArg _ (Out.msg.inj h)⟩
  | error e => rw [hm] at h; cases h

/-- Reading a message never changes the chunk, whether the call returns a message or is refused, in every state,
reachable or not. -/
theorem C14_queries_pure {α} [DecidableEq α] (K : Kern) (P : PPrms α) (c : Chunk α) (w : Which) :
    (step K P c (.metarMsg w)).1 = c := by
  rw [step_metarMsg]

/-- Message reads can be erased from a history without affecting the state it ends in. -/
theorem C14_reads_erasable {α} [DecidableEq α] (K : Kern) (P : PPrms α) (c : Chunk α) (ops : List Op) :
    (runOps K P c ops).1 = (runOps K P c (ops.filter fun o => match o with | .metarMsg _ => false | _ => true)).1 := by
  induction ops generalizing c with
  | nil => rfl
  | cons op rest ih =>
    cases op with
    | metarMsg w =>
      rw [runOps_cons, C14_queries_pure]
      exact ih c
    | _ => exact ih _

end Ampy
