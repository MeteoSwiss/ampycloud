import Ampy.Lemmas.ParamsSep
/-!
# C11 — running never modifies caller data, caller parameters or the global parameters

The parameter world (`Sys`, Model/Params.lean) has Python's object identities: a mutation of a dict or list is seen
through every alias.  `Sys.Inv` = `WF ∧ Sep ∧ Kinds` (Lemmas/ParamsSep) holds in the initial world and after every
history.  `C11_sep_invariant` reports `WF ∧ Sep` only; to go on from a reached state use `run_inv` / `step_inv`, which
carry `Kinds`, or `C11_sep_step`.  A snapshot may share *list* leaves with the caller dictionary it was built from (the
code stores the caller's list objects themselves): a real alias, outside what C11 claims, reported in the evidence.
The caller's DataFrame: the frame model (`screen` works on a copy, `construct` never returns the argument), checked
on the real code by the harness.
-/
namespace Ampy

/-- `WF` and `Sep` hold after every history from a freshly loaded parameter world. -/
theorem C11_sep_invariant (defaults : PTree) (ops : List SOp) :
    ((Sys.init defaults).run ops).1.WF ∧ ((Sys.init defaults).run ops).1.Sep :=
  have h := run_inv (Sys.init defaults) ops (init_inv defaults)
  ⟨h.wf, h.sep⟩

/-- One operation preserves `WF`, `Sep` and `Kinds` together (`Kinds` holds of every dictionary a caller can build in
the model: `deepcopy` gives it). -/
theorem C11_sep_step (s : Sys) (op : SOp) (hw : s.WF) (hs : s.Sep) (hk : s.Kinds) :
    (s.step op).1.WF ∧ (s.step op).1.Sep ∧ (s.step op).1.Kinds :=
  have h := step_inv s op ⟨hw, hs, hk⟩
  ⟨h.wf, h.sep, h.kinds⟩

/-- Constructing a chunk leaves the global, every caller dictionary and every existing snapshot as they were,
contents and identities. -/
theorem C11_construct_pure (s : Sys) (c : Option Nat) :
    (s.step (.construct c)).1.global = s.global ∧ (s.step (.construct c)).1.callers = s.callers ∧
    ∀ (j : Nat) (t : PTree), s.snaps[j]? = some t → (s.step (.construct c)).1.snaps[j]? = some t := by
  obtain ⟨n, -, h | ⟨T, -, h⟩⟩ := step_construct_shape s c
  · rw [h]; exact ⟨rfl, rfl, fun _ _ hj => hj⟩
  · rw [h]
    refine ⟨rfl, rfl, fun j t hj => ?_⟩
    rw [← hj]
    exact List.getElem?_append_left (List.getElem?_eq_some_iff.1 hj).1

/-- Edits of the global parameters (direct, `set_prms`, `reset_prms`) change no existing snapshot and no caller
dictionary. -/
theorem C11_snapshot_fixed (s : Sys) (hw : s.WF) (hs : s.Sep) (op : SOp)
    (hop : (∃ p v, op = .setGlobal p v) ∨ (∃ y, op = .setPrms y) ∨ (∃ w, op = .reset w)) :
    (s.step op).1.snaps = s.snaps ∧ (s.step op).1.callers = s.callers := by
  have _ := hw
  obtain ⟨n, g, -, -, h⟩ := step_global_shape s hs op hop
  rw [h]
  exact ⟨rfl, rfl⟩

/-- An edit of a snapshot leaves the global parameters, the caller dictionaries and the other snapshots as
they were. -/
theorem C11_no_leak (s : Sys) (hw : s.WF) (hs : s.Sep) (j : Nat) (p : List String) (v : PTree) :
    (s.step (.setSnap j p v)).1.global = s.global ∧ (s.step (.setSnap j p v)).1.callers = s.callers ∧
    ∀ (i : Nat) (t : PTree), i ≠ j → s.snaps[i]? = some t → (s.step (.setSnap j p v)).1.snaps[i]? = some t :=
  have _ := hw
  snap_edit_no_leak s hs j p v

/-- An edit of a snapshot does not show in a chunk built afterwards: the construction has the same outcome as
without the edit and, when it succeeds, the new snapshot has the same contents. -/
theorem C11_no_leak_later (s : Sys) (hw : s.WF) (hs : s.Sep) (j : Nat) (p : List String) (v : PTree)
    (c : Option Nat) (hok : ∃ w, (s.step (.construct c)).2 = .ok w) :
    ((s.step (.setSnap j p v)).1.step (.construct c)).2 = (s.step (.construct c)).2 ∧
    (((s.step (.setSnap j p v)).1.step (.construct c)).1.snaps.getLast?).map PTree.strip =
      ((s.step (.construct c)).1.snaps.getLast?).map PTree.strip := by
  have _ := hw
  obtain ⟨hg, hc, -⟩ := snap_edit_no_leak s hs j p v
  obtain ⟨a, b⟩ := construct_congr s (s.step (.setSnap j p v)).1 hg hc c
  exact ⟨a, b hok⟩

/-- `copy.deepcopy`: same contents, only fresh identities. -/
theorem C11_deepcopy_fresh (t : PTree) (n : Nat) :
    (t.deepcopy n).1.strip = t.strip ∧ n ≤ (t.deepcopy n).2 ∧
    ∀ i ∈ (t.deepcopy n).1.ids, n ≤ i ∧ i < (t.deepcopy n).2 :=
  ⟨PTree.deepcopy_strip t n, PTree.deepcopy_le t n, PTree.forall_ids.2 (PTree.deepcopy_fresh t n)⟩

end Ampy
