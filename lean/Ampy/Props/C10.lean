import Ampy.Lemmas.Screen
/-!
# C10 — the outcome depends only on the four column values, not on index labels or layout

In the model a frame's columns are looked up by name and its cells are what they coerce to: column order is not
representable and dtype variants differ only by the `exact` flag.  The code resets the index at construction, so the
labels are never read.  The theorems are immediate in the model; their content comes from the correspondence check on
relabelled, column-permuted, extra-column and dtype-variant frames.
-/
namespace Ampy

/-- Relabelling the index in any way (repeats included) changes nothing. -/
theorem C10_relabel_invariant {α} [DecidableEq α] (K : Kern) (P : PPrms α) (f : RawFrame α) (idx : List Int) :
    runFrom K P (.frame { f with index := idx }) = runFrom K P (.frame f) := by
  rw [runFrom_bare, runFrom_bare K P f]
  rfl

/-- Superfluous columns change nothing (they only trigger warnings). -/
theorem C10_extra_columns {α} [DecidableEq α] (K : Kern) (P : PPrms α) (f : RawFrame α) (extra : List String) :
    runFrom K P (.frame { f with extra := extra }) = runFrom K P (.frame f) := by
  rw [runFrom_bare, runFrom_bare K P f]
  rfl

/-- Equal values in another coercible dtype change nothing (only the dtype warning differs). -/
theorem C10_dtype_variants {α} [DecidableEq α] (K : Kern) (P : PPrms α) (f : RawFrame α)
    (c : Col α) (d : Col Rat) (h : Col (Option Rat)) (t : Col Int) (e1 e2 e3 e4 : Bool)
    (hc : f.ceilo = some c) (hd : f.dt = some d) (hh : f.height = some h) (ht : f.type = some t) :
    runFrom K P (.frame { f with ceilo := some { c with exact := e1 }, dt := some { d with exact := e2 },
                                 height := some { h with exact := e3 }, type := some { t with exact := e4 } })
      = runFrom K P (.frame f) := by
  rw [runFrom_bare, runFrom_bare K P f]
  simp only [bare, hc, hd, hh, ht, Option.map_some]

end Ampy
