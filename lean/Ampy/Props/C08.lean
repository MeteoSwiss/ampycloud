import Ampy.Props.C15
import Ampy.Lemmas.Run
import Ampy.Lemmas.Domain
import Ampy.Lemmas.EndToEnd
import Ampy.Lemmas.Selection
/-!
# C08 — valid input never crashes the chain; failures are AmpycloudError only  (partial)

"Does not crash" is "no error branch of the model is reachable": with parameters as documented (`PrmsOK`) and
third-party answers of the documented shape (`KernOK`, and A3 `SelectedPopulated`) `run` returns a chunk; without A3
it can only fail by the empty-component refusal of `calc_base_height` or the `assert` of `ncomp_from_gmm`. That the
libraries themselves do not raise inside their documented domain is search only (harness/props/c08.py).
-/
namespace Ampy

/-- `run()` returns a chunk: no `AmpycloudError` of the code itself (percentage out of range, empty base-height
selection, MIN_SEP shape, unknown scores / mode), no `assert`, no `IndexError` of a mis-shaped table is reachable. -/
theorem C08_run_total {α} [DecidableEq α] (K : Kern) (P : PPrms α) (hK : KernOK K P.basePerc) (hP : PrmsOK P)
    (hA3 : SelectedPopulated K P) (checked : List (Hit α)) :
    ∃ c, run K P checked = .ok c :=
  run_total K P hK hP hA3 checked

/-- Without A3 the cascade can only fail by the empty-component `AmpycloudError` or by the `assert`. -/
theorem C08_run_error_kinds {α} [DecidableEq α] (K : Kern) (P : PPrms α) (hK : KernOK K P.basePerc) (hP : PrmsOK P)
    (checked : List (Hit α)) (e : AmpyErr) (h : run K P checked = .error e) :
    e = .ampy "Cloud base calculation got an empty array" ∨ e = .other "AssertionError" :=
  ((run_sat K P checked).of_error h hK hP).1

/-- Every chunk `run` returns holds the three id columns and the three tables that `metar_msg()` reads. -/
theorem C08_metar_msg_total {α} [DecidableEq α] (K : Kern) (P : PPrms α) (checked : List (Hit α)) (c : Chunk α)
    (h : run K P checked = .ok c) :
    c.slices.isSome = true ∧ c.groups.isSome = true ∧ c.layers.isSome = true ∧
    c.sids.isSome = true ∧ c.gids.isSome = true ∧ c.lids.isSome = true := by
  obtain ⟨t, hp⟩ := run_parts K P checked c h
  simp [hp.sids_eq, hp.gids_eq, hp.lids_eq, hp.slices_eq, hp.groups_eq, hp.layers_eq]

/-- Data problems that ampycloud refuses at construction are signalled by `AmpycloudError`. -/
theorem C08_refusals_are_ampy {α} [DecidableEq α] (arg : PyArg α) (e : AmpyErr) (h : screen arg = .error e) :
    ∃ why, e = .ampy why :=
  C15_error_is_ampy arg e h

/-- `find_slices` returns ids for any kernel, under `PrmsOK`. -/
theorem C08_slices_total {α} (K : Kern) (P : PPrms α) (hP : PrmsOK P) (data : List (Hit α)) :
    ∃ sids, sliceIds K P data = .ok sids :=
  ((sliceIds_sat K P data).exists_ok fun _ h => h hP.hscale).imp fun _ h => h.1

theorem C08_groups_total {α} [DecidableEq α] (K : Kern) (P : PPrms α) (hK : KernOK K P.basePerc) (hP : PrmsOK P)
    (data : List (Hit α)) (sids : List Int) (slices : Table) (hs : IdsExact data sids) :
    ∃ r, groupIds K P data sids slices = .ok r :=
  groupIds_total K P hK hP data sids slices hs

theorem C08_layers_total {α} [DecidableEq α] (K : Kern) (P : PPrms α) (hK : KernOK K P.basePerc) (hP : PrmsOK P)
    (hA3 : SelectedPopulated K P) (data : List (Hit α)) (gids : List Int) (groups : Table) :
    ∃ r, layerIds K P data gids groups = .ok r :=
  ((layerIds_decisions K P data gids groups).exists_ok fun e ⟨g, _, he⟩ =>
    (layerDecide_error K P hK hP data gids g e he).2 hA3).imp fun _ h => h.1

/-- Kernel pre-conditions, stated extensionally: two kernels that agree on the domains of `KernAgree` (clustering and
LOWESS: at least 2 points; mixture: at least 30 values, 1..3 components; `np.percentile`: a non-empty array) give the
same run, so what a kernel would answer — or raise — outside them is never observed. (The documented mixture domain
also bounds the components by the number of distinct values; that the cascade respects this is not used.) -/
theorem C08_kernel_domains {α} [DecidableEq α] (K K' : Kern) (P : PPrms α) (checked : List (Hit α))
    (hA : KernAgree K K') (hK : KernOK K P.basePerc) (hp : PtsOrderOK K) (hP : PrmsOK P) :
    run K P checked = run K' P checked := by
  have _ := hP -- not needed
  have hm := fun w ld ids h => metarize_agree hA hp P.toPrms w ld (crop P.toPrms checked).1 ids h
  rw [run_eq, run_eq]
  simp only [← sliceIds_agree hA, ← groupIds_agree hA, ← layerIds_agree hA]
  -- each table is built from an id column that the stage before it returned
  refine bind_congr_ok fun sids hs => ?_
  have x1 := sliceIds_exact K P _ hK sids hs
  rw [← hm _ _ _ x1.toOK]
  refine bind_congr_ok fun sl _ => bind_congr_ok fun ⟨gids, iso⟩ hg => ?_
  have x2 := groupIds_exact K P _ _ hK sids sl x1 gids iso hg
  simp only
  rw [← hm _ _ _ x2.toOK]
  refine bind_congr_ok fun gr _ => bind_congr_ok fun ⟨lids, nc⟩ hl => ?_
  simp only
  rw [← hm _ _ _ (layerIds_exact K P _ hK gids gr x2 lids nc hl).toOK]

/-- The whole call `ampycloud.run(data, prms)`, for *any* argument: either the consistency check refuses it with an
`AmpycloudError` (C15 says exactly when), or a chunk is returned. -/
theorem C08_api_total {α} [DecidableEq α] (K : Kern) (P : PPrms α) (hK : KernOK K P.basePerc) (hP : PrmsOK P)
    (hA3 : SelectedPopulated K P) (arg : PyArg α) :
    (∃ why, runFrom K P arg = .error (.ampy why)) ∨ ∃ c, runFrom K P arg = .ok c := by
  unfold runFrom
  cases hs : screen arg with
  | error e =>
    obtain ⟨why, rfl⟩ := C15_error_is_ampy arg e hs
    exact Or.inl ⟨why, rfl⟩
  | ok r =>
    obtain ⟨c, _⟩ := r
    exact Or.inr (run_total K P hK hP hA3 c.rows)

/-- `ampycloud.metar(data)`: on accepted input `run` returns a chunk and `metar_msg('layers')` a string on it. -/
theorem C08_metar_total {α} [DecidableEq α] (K : Kern) (P : PPrms α) (checked : List (Hit α))
    (hA : Accepted K P checked) (hA3 : SelectedPopulated K P) :
    ∃ c msg, run K P checked = .ok c ∧ metarMsgOp P c .layers = .ok msg := by
  obtain ⟨c, hc⟩ := run_total K P hA.kern hA.prms hA3 checked
  obtain ⟨t, _, _, hm⟩ := run_msg K P checked hA c hc .layers
  exact ⟨c, _, hc, hm⟩

/-- A3 as a theorem: in mode `delta` (the default) the empty-component penalty of `ncomp_from_gmm` keeps every
unpopulated mixture from being selected, whenever the scores are non-negative and `delta_mul_gain ≤ 1`. -/
theorem C08_selected_populated_delta {α} (K : Kern) (P : PPrms α) (q : Rat) (hK : KernOK K q)
    (hmode : P.gmmMode = "delta") (hg1 : P.gmmGain ≤ 1)
    (hscore : ∀ s vals n, 0 ≤ (K.gmm s vals n).score) :
    SelectedPopulated K P := by
  intro vals ncompMax n f h i hi
  have hsel : selIdx K P (boostScores (gmmFits K P vals ncompMax)) =
      bestDelta (boostScores (gmmFits K P vals ncompMax)) P.gmmGain := if_pos hmode
  rw [selectedFit_eq, hsel] at h
  obtain ⟨f', hf', he⟩ := Option.map_eq_some_iff.mp h
  cases he
  obtain ⟨_, rfl⟩ := (gmmFits_getElem? ..).mp hf'
  have hnb := bestDelta_never_boosted (gmmFits K P vals ncompMax) P.gmmGain hg1
    (fun g hg => by
      obtain ⟨j, _, rfl⟩ := List.mem_map.mp hg
      exact hscore _ _ _)
    (gmmFits_zero_populated K P q hK vals ncompMax) _ hf'
  exact Sel.mem_of_eraseDups_length_ge _ _
    (hK.gmm_lt _ _ _ (Nat.succ_pos _)) (Nat.le_of_not_lt hnb) i hi

/-- So in mode `delta`, with non-negative scores and a gain `≤ 1`, `run` is total without assuming A3. -/
theorem C08_run_total_delta {α} [DecidableEq α] (K : Kern) (P : PPrms α) (hK : KernOK K P.basePerc) (hP : PrmsOK P)
    (hmode : P.gmmMode = "delta") (hg1 : P.gmmGain ≤ 1)
    (hscore : ∀ s vals n, 0 ≤ (K.gmm s vals n).score) (checked : List (Hit α)) :
    ∃ c, run K P checked = .ok c :=
  run_total K P hK hP (C08_selected_populated_delta K P P.basePerc hK hmode hg1 hscore) checked

/-- Neither condition can be dropped (the penalty is `max(scores) + 1`, the test `score < gain * best`): with all
scores negative and close, gain 0.95 selects the unpopulated mixture; so does a gain above 1 with positive scores.
(Not exhibited with the real library: DESIGN.md 11.12.) -/
theorem C08_penalty_limits :
    (bestDelta (boostScores Sel.witnessNeg) (95 / 100) = 1 ∧
      ((Sel.witnessNeg[1]?).map fun f => decide ((f.labels.eraseDups).length < 1 + 1)) = some true) ∧
    (bestDelta (boostScores Sel.witnessGain) 2 = 1 ∧
      ((Sel.witnessGain[1]?).map fun f => decide ((f.labels.eraseDups).length < 1 + 1)) = some true) :=
  ⟨⟨bestDelta_witnessNeg, by decide⟩, bestDelta_witnessGain, by decide⟩

end Ampy
