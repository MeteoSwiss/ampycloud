import Ampy.Lemmas.Wmo
/-!
# C18 — WMO conversions: okta binning, okta abbreviations and height flooring

About `perc2okta` / `perc2oktaNM`, `okta2code`, `height2code` (models of `wmo.py`) over exact rationals.  Binary64
rounding is outside these theorems: the correspondence check validates it exhaustively (DESIGN.md §6 C18).
-/
namespace Ampy

/-- Values outside `[0, 100]` are refused with an `AmpycloudError`. -/
theorem C18_range_refused (p : Rat) (h : p < 0 ∨ 100 < p) : ∃ e, perc2okta p = .error (.ampy e) := by
  unfold perc2okta
  rw [if_neg fun ⟨a, b⟩ => h.elim a.not_gt b.not_gt]
  exact ⟨_, rfl⟩

theorem C18_total (p : Rat) (h0 : 0 ≤ p) (h1 : p ≤ 100) :
    perc2okta p = .ok (oktaOfPerc p) ∧ 0 ≤ oktaOfPerc p ∧ oktaOfPerc p ≤ 8 :=
  ⟨if_pos ⟨h0, h1⟩, oktaOfPerc_range h0 h1⟩

theorem C18_mono_perc (p q : Rat) (hp : 0 ≤ p) (hpq : p ≤ q) (hq : q ≤ 100) :
    oktaOfPerc p ≤ oktaOfPerc q := oktaOfPerc_mono hp hpq hq

theorem C18_nm_ok (n M : Nat) (hM : 0 < M) (h : n ≤ M) :
    perc2oktaNM n M = .ok (oktaOfPerc ((n : Rat) / (M : Rat) * 100)) :=
  if_pos (percNM_range hM h)

theorem C18_mono (n n' M : Nat) (hM : 0 < M) (hn : n ≤ n') (h : n' ≤ M) :
    oktaOfPerc ((n : Rat) / (M : Rat) * 100) ≤ oktaOfPerc ((n' : Rat) / (M : Rat) * 100) :=
  oktaOfPerc_mono (percNM_range hM (Nat.le_trans hn h)).1 ((percNM_le_iff hM).mpr hn) (percNM_range hM h).2

theorem C18_zero_iff (n M : Nat) (hM : 0 < M) (h : n ≤ M) :
    oktaOfPerc ((n : Rat) / (M : Rat) * 100) = 0 ↔ n = 0 := by
  rw [oktaOfPerc_eq_zero_iff (percNM_range hM h).1 (percNM_range hM h).2, percNM_eq_zero hM]

theorem C18_eight_iff (n M : Nat) (hM : 0 < M) (h : n ≤ M) :
    oktaOfPerc ((n : Rat) / (M : Rat) * 100) = 8 ↔ n = M := by
  rw [oktaOfPerc_eq_eight_iff (percNM_range hM h).1 (percNM_range hM h).2, percNM_eq_hundred hM]

/-- For a percentage strictly inside `(0, 100)` the okta is a nearest integer to `8·p/100` (a half-way case may go either
way), clipped to `1..7`. -/
theorem C18_nearest_clipped (p : Rat) (h0 : 0 < p) (h1 : p < 100) :
    ∃ r : Int, (r : Rat) - 1/2 ≤ p * 8 / 100 ∧ p * 8 / 100 ≤ (r : Rat) + 1/2 ∧
      oktaOfPerc p = max 1 (min 7 r) :=
  ⟨_, (rhe_bounds _).1, (rhe_bounds _).2, oktaOfPerc_eq_clip h0 h1⟩

theorem C18_okta2code_table :
    okta2code (.int 0) = .ok (some "NCD") ∧
    okta2code (.int 1) = .ok (some "FEW") ∧ okta2code (.int 2) = .ok (some "FEW") ∧
    okta2code (.int 3) = .ok (some "SCT") ∧ okta2code (.int 4) = .ok (some "SCT") ∧
    okta2code (.int 5) = .ok (some "BKN") ∧ okta2code (.int 6) = .ok (some "BKN") ∧
    okta2code (.int 7) = .ok (some "BKN") ∧ okta2code (.int 8) = .ok (some "OVC") ∧
    okta2code (.int 9) = .ok none := by decide

theorem C18_okta2code_other (n : Int) (h : n < 0 ∨ 9 < n) : ∃ e, okta2code (.int n) = .error (.ampy e) := by
  simp only [okta2code, okta2codeInt]
  repeat (rw [if_neg (by omega)])
  exact ⟨_, rfl⟩

/-- Every value that is not a Python `int` (floats, numpy integers, strings, `None`) is refused. -/
theorem C18_okta2code_nonint (v : PyVal) (h1 : ∀ n, v ≠ .int n) (h2 : ∀ b, v ≠ .bool b) :
    ∃ e, okta2code v = .error (.ampy e) := by
  cases v with
  | int n => exact absurd rfl (h1 n)
  | bool b => exact absurd rfl (h2 b)
  | float x => exact ⟨_, rfl⟩
  | npint n => exact ⟨_, rfl⟩
  | str s => exact ⟨_, rfl⟩
  | none => exact ⟨_, rfl⟩

/-- The coded value (in hundreds of feet) is the largest multiple of 100 ft, above 10000 ft of 1000 ft, that does not
exceed the height. -/
theorem C18_h_floor (h : Rat) :
    ((heightHundreds h : Int) : Rat) * 100 ≤ h ∧
    (h ≤ 10000 → h < (((heightHundreds h : Int) : Rat) + 1) * 100) ∧
    (¬ h ≤ 10000 → h < (((heightHundreds h : Int) : Rat) + 10) * 100 ∧ heightHundreds h % 10 = 0) :=
  ⟨hh_le h, fun hl => (hh_low hl).2, fun hl => ⟨(hh_high hl).2.1, (hh_high hl).2.2⟩⟩

theorem C18_h_mono (a b : Rat) (hab : a ≤ b) : heightHundreds a ≤ heightHundreds b := hh_mono hab

theorem C18_h_three_digits (h : Rat) (h0 : 0 ≤ h) (h1 : h < 100000) :
    ∃ d₀ d₁ d₂ : Char, d₀.isDigit ∧ d₁.isDigit ∧ d₂.isDigit ∧
      height2code (some h) = String.ofList [d₀, d₁, d₂] := by
  have := hh_range h0 h1
  exact fmt03_three_digits this.1 this.2

theorem C18_h_nan : height2code none = "" := rfl

/-- Both sides of the 10000-ft switch. -/
example : height2code (some 9999) = "099" ∧ height2code (some 10000) = "100" ∧
    height2code (some 10999) = "100" ∧ height2code (some 11000) = "110" := by decide +kernel
example : perc2oktaNM 3 16 = .ok 2 ∧ perc2oktaNM 1 16 = .ok 1 ∧ perc2oktaNM 15 16 = .ok 7 := by
  decide +kernel

end Ampy
