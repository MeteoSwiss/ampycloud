import Ampy.Lemmas.StageStep
/-!
# C13 — concurrent or interleaved chunks with per-call parameters do not interfere  (partial)

In the model a stage call on chunk `i` touches chunk `i` only (C11 shows its parameter snapshot shares nothing mutable
with the global dictionary).  Hence for every interleaving every chunk ends where it ends when processed alone.  What
the model cannot exhibit (pre-emption inside C extensions, internal thread pools, the `warnings` registry) is searched
by the harness, not proved.
-/
namespace Ampy

/-- Frame: a call on chunk `i` leaves every other chunk as it is. -/
theorem C13_frame {α} [DecidableEq α] (K : Kern) (Ps : Nat → PPrms α) (cs : List (Chunk α)) (i j : Nat) (op : Op)
    (h : i ≠ j) : (stepAt K Ps cs i op).1[j]? = cs[j]? := by
  rw [stepAt_getElem?, if_neg (Ne.symm h)]

/-- Projection: after any schedule, chunk `i` is in the state reached by its own calls alone. -/
theorem C13_projection {α} [DecidableEq α] (K : Kern) (Ps : Nat → PPrms α) (sched : List (Nat × Op)) :
    ∀ (cs : List (Chunk α)) (i : Nat) (c : Chunk α), cs[i]? = some c →
      (runSched K Ps cs sched).1[i]? = some (runOps K (Ps i) c (opsOf i sched)).1 :=
  fun cs i c hc => (runSched_proj K Ps sched cs i c hc).1

/-- What each call returns to its caller is also that of the isolated run: the outputs of chunk `i`
along the schedule are the outputs of its own calls alone. -/
theorem C13_outputs {α} [DecidableEq α] (K : Kern) (Ps : Nat → PPrms α) (sched : List (Nat × Op)) :
    ∀ (cs : List (Chunk α)) (i : Nat) (c : Chunk α), cs[i]? = some c →
      ((runSched K Ps cs sched).2.filter (·.1 = i)).map (·.2) = (runOps K (Ps i) c (opsOf i sched)).2.map some :=
  fun cs i c hc => (runSched_proj K Ps sched cs i c hc).2

/-- Calls on different chunks commute. -/
theorem C13_commute {α} [DecidableEq α] (K : Kern) (Ps : Nat → PPrms α) (cs : List (Chunk α)) (i j : Nat) (a b : Op)
    (h : i ≠ j) (k : Nat) :
    (stepAt K Ps (stepAt K Ps cs i a).1 j b).1[k]? = (stepAt K Ps (stepAt K Ps cs j b).1 i a).1[k]? := by
  simp only [stepAt_getElem?]
  by_cases hki : k = i <;> by_cases hkj : k = j
  · exact absurd (hki.symm.trans hkj) h
  · simp [hki, h]
  · simp [hkj, Ne.symm h]
  · simp [hki, hkj]

end Ampy
