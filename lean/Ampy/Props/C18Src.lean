import Ampy.Props.Monitor
import Ampy.GenEq.Okta2code
import Ampy.GenEq.Height2code
import Ampy.GenEq.Perc2okta
/-!
# C18 on the source

`Gen.okta2code`, `Gen.height2code`, `Gen.perc2okta` are regenerated from `wmo.py` on every run and tied to the model on every
input (DESIGN.md §11.10; rationals and NaN, refusals up to the error text).  Binary64 rounding is outside both sides.
-/
namespace Ampy
open Ampy.Py

theorem C18_src_okta2code_is_model (n : Int) : GenEq.sameOutcome (Gen.okta2code n) (okta2code (.int n)) :=
  GenEq.okta2code_eq n

theorem C18_src_height2code_is_model (v : Option Rat) : Gen.height2code v = .ok (height2code v) :=
  GenEq.height2code_eq v

theorem C18_src_perc2okta_is_model (p : Rat) : GenEq.sameOutcome (Gen.perc2okta (some p)) (perc2okta p) :=
  GenEq.perc2okta_eq p

theorem C18_src_okta2code_table :
    Gen.okta2code 0 = .ok (some "NCD") ∧
    Gen.okta2code 1 = .ok (some "FEW") ∧ Gen.okta2code 2 = .ok (some "FEW") ∧
    Gen.okta2code 3 = .ok (some "SCT") ∧ Gen.okta2code 4 = .ok (some "SCT") ∧
    Gen.okta2code 5 = .ok (some "BKN") ∧ Gen.okta2code 6 = .ok (some "BKN") ∧
    Gen.okta2code 7 = .ok (some "BKN") ∧ Gen.okta2code 8 = .ok (some "OVC") ∧
    Gen.okta2code 9 = .ok none := by decide

theorem C18_src_okta2code_other (n : Int) (h : n < 0 ∨ 9 < n) : ∃ e, Gen.okta2code n = .error (.ampy e) := by
  obtain ⟨e, he⟩ := C18_okta2code_other n h
  exact GenEq.sameOutcome_ampy (he ▸ C18_src_okta2code_is_model n)

theorem C18_src_range_refused (p : Rat) (h : p < 0 ∨ 100 < p) : ∃ e, Gen.perc2okta (some p) = .error (.ampy e) := by
  obtain ⟨e, he⟩ := C18_range_refused p h
  exact GenEq.sameOutcome_ampy (he ▸ C18_src_perc2okta_is_model p)

theorem C18_src_nan_refused : ∃ e, Gen.perc2okta none = .error (.ampy e) := GenEq.perc2okta_nan

theorem C18_src_perc2okta_ok (p : Rat) (k : Int) (hk : perc2okta p = .ok k) : Gen.perc2okta (some p) = .ok k :=
  GenEq.sameOutcome_ok (hk ▸ C18_src_perc2okta_is_model p)

/-- What the source computes for `n` hits out of `m` passes the monitor's predicate (the property text: 0 iff no hit, 8
iff all, a nearest okta clipped to 1..7 otherwise). -/
theorem C18_src_okta_rule (n m : Nat) (hm : 0 < m) (h : n ≤ m) :
    ∃ k, Gen.perc2okta (some ((n : Rat) / (m : Rat) * 100)) = .ok k ∧ Spec.c18okta n m k = true := by
  have hk := C18_nm_ok n m hm h
  exact ⟨_, C18_src_perc2okta_ok _ _ hk, C18_monitor_sound_okta n m hm h _ hk⟩

theorem C18_src_mono (n n' m : Nat) (hm : 0 < m) (hn : n ≤ n') (h : n' ≤ m) :
    ∃ k k', Gen.perc2okta (some ((n : Rat) / (m : Rat) * 100)) = .ok k ∧
      Gen.perc2okta (some ((n' : Rat) / (m : Rat) * 100)) = .ok k' ∧ k ≤ k' :=
  ⟨_, _, C18_src_perc2okta_ok _ _ (C18_nm_ok n m hm (Nat.le_trans hn h)),
    C18_src_perc2okta_ok _ _ (C18_nm_ok n' m hm h), C18_mono n n' m hm hn h⟩

/-- On `[0, 10^5)` ft the source's coded height is the three-digit floor the property prescribes. -/
theorem C18_src_height_rule (h : Rat) (h0 : 0 ≤ h) (h1 : h < 100000) :
    ∃ s, Gen.height2code (some h) = .ok s ∧ Spec.c18height h s = true :=
  ⟨_, C18_src_height2code_is_model _, C18_monitor_sound_height h h0 h1⟩

theorem C18_src_h_nan : Gen.height2code none = .ok "" := C18_src_height2code_is_model none

example : Gen.height2code (some 9999) = .ok "099" ∧ Gen.height2code (some 10999) = .ok "100" := by decide +kernel
example : Gen.perc2okta (some ((3 : Rat) / 16 * 100)) = .ok 2 ∧ Gen.perc2okta (some 100) = .ok 8 := by decide +kernel

end Ampy
