import Ampy.Props.C19
import Ampy.GenEq.Small
import Ampy.GenEq.Scalers
/-!
# C19 on the source: the minimum-range rule, shift-and-scale, min-max scaling

`Gen.minrange2minmax`, `Gen.shift_and_scale`, `Gen.minmax_scale` are regenerated from `scaler.py` on every run (DESIGN.md
§11.10), with `np.nanmax` / `np.nanmin` as parameters, here the model's; numpy broadcasting is read element-wise.
-/
namespace Ampy

theorem C19_src_minrange_is_model (vals : List (Option Rat)) (minRange : Rat) :
    Gen.minrange2minmax nanmax nanmin vals minRange = minrange2minmax vals minRange :=
  GenEq.minrange2minmax_eq vals minRange

/-- On the source: the interval mapped onto `[0, 1]` contains the data, has width `max(span, min_range)` and has the
mid-point of the data. -/
theorem C19_src_min_range (vals : List (Option Rat)) (minRange : Rat) (hne : valids vals ≠ []) (hr : 0 ≤ minRange) :
    let lo := (Gen.minrange2minmax nanmax nanmin vals minRange).1
    let hi := (Gen.minrange2minmax nanmax nanmin vals minRange).2
    (∀ v ∈ valids vals, lo ≤ v ∧ v ≤ hi) ∧ hi - lo ≥ minRange ∧
    hi - lo = max (nanmax vals - nanmin vals) minRange ∧ hi + lo = nanmax vals + nanmin vals := by
  rw [C19_src_minrange_is_model]
  exact C19_min_range vals minRange hne hr

example : Gen.minrange2minmax nanmax nanmin [some 100, none, some 300] 1000 = (-300, 700) := by decide +kernel

theorem C19_src_shift_is_model (vals : List (Option Rat)) (shift : Option Rat) (scale : Rat) (hs : scale ≠ 0) :
    Gen.shift_and_scale nanmax vals shift scale "do" = .ok (shiftAndScale vals shift scale .doIt) ∧
    Gen.shift_and_scale nanmax vals shift scale "undo" = .ok (shiftAndScale vals shift scale .undo) :=
  ⟨GenEq.shift_and_scale_do vals shift scale hs, GenEq.shift_and_scale_undo vals shift scale⟩

theorem C19_src_minmax_is_model (vals : List (Option Rat)) (lo hi : Option Rat) :
    Gen.minmax_scale nanmax nanmin vals lo hi "do" = .ok (minmaxScale vals lo hi .doIt) ∧
    Gen.minmax_scale nanmax nanmin vals lo hi "undo" = .ok (minmaxScale vals lo hi .undo) :=
  ⟨GenEq.minmax_scale_do vals lo hi, GenEq.minmax_scale_undo vals lo hi⟩

/-- On the source: identical values and no bounds given (a null range) are mapped onto 0, not divided into NaN;
non-detections stay non-detections. -/
theorem C19_src_null_range (vals : List (Option Rat)) (h : nanmax vals = nanmin vals) :
    Gen.minmax_scale nanmax nanmin vals none none "do" = .ok (vals.map (Option.map fun _ => (0 : Rat))) := by
  rw [GenEq.minmax_scale_do]
  simp only [minmaxScale, Option.getD_none, h, GenEq.minmax1_do_null]

theorem C19_src_badmode (vals : List (Option Rat)) (a b : Option Rat) (k : Rat) (mode : String)
    (h1 : mode ≠ "do") (h2 : mode ≠ "undo") :
    Gen.shift_and_scale nanmax vals a k mode = .error (.ampy "") ∧
    Gen.minmax_scale nanmax nanmin vals a b mode = .error (.ampy "") :=
  ⟨GenEq.shift_and_scale_badmode vals a k mode h1 h2, GenEq.minmax_scale_badmode vals a b mode h1 h2⟩

/-- On the source: undoing the shift-and-scale with the shift it used (by default the largest non-NaN value) gives the
input back, NaNs in place, for every non-zero scale. -/
theorem C19_src_shift_roundtrip (vals : List (Option Rat)) (shift : Option Rat) (scale : Rat) (hs : scale ≠ 0) :
    ∃ out, Gen.shift_and_scale nanmax vals shift scale "do" = .ok out ∧
      Gen.shift_and_scale nanmax out (some (shift.getD (nanmax vals))) scale "undo" = .ok vals := by
  refine ⟨_, GenEq.shift_and_scale_do vals shift scale hs, ?_⟩
  rw [GenEq.shift_and_scale_undo]
  simp [shiftAndScale, Function.comp_def, shiftScale1_undo_do _ hs]

example : Gen.shift_and_scale nanmax [some 100, none, some 300] none 100 "do" = .ok [some (-2), none, some 0] := by
  decide +kernel

end Ampy
