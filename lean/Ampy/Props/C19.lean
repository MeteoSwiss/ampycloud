import Ampy.Lemmas.Scaler
/-!
# C19 — scalings are order-preserving, invertible and blind to non-detections  (float round trip sampled: partial)

Theorems about the models of `scaler.shift_and_scale`, `minmax_scale` (+ `minrange2minmax`),
`step_scale`, `apply_scaling`, `convert_kwargs` over exact rationals (`none` = NaN).  Exact inversion does
not hold in binary64 and is not claimed: the harness checks the float round trip within 1e-6.
-/
namespace Ampy

/-- Every mode is order-preserving on its domain: it never reverses two values. -/
theorem C19_order_preserving (vals : List (Option Rat)) (spec : ScaleSpec) (out : List (Option Rat))
    (hdom : match spec with
      | .none => True
      | .shift _ k => 0 < k
      | .minmax mr => 0 ≤ mr ∧ 0 < max (nanmax vals - nanmin vals) mr
      | .minmaxFixed lo hi => lo < hi
      | .step st sc => st.length + 1 = sc.length ∧ sortedRat st = true ∧ PosScales sc)
    (h : applyScaling vals spec = .ok out) (i j : Nat) (a b a' b' : Rat)
    (hi : vals[i]? = some (some a)) (hj : vals[j]? = some (some b))
    (hi' : out[i]? = some (some a')) (hj' : out[j]? = some (some b')) (hab : a < b) : a' < b' := by
  obtain ⟨-, rfl⟩ := (applyScaling_eq_ok_iff vals spec out).mp h
  simp only [List.getElem?_map, hi, hj, Option.map_some, Option.some.injEq] at hi' hj'
  subst hi' hj'
  exact scaleFn_strictMono vals spec hdom hab

/-- Undoing a scaling with the keywords of `convert_kwargs` restores the original values. -/
theorem C19_kwargs_roundtrip (vals : List (Option Rat)) (spec : ScaleSpec) (out : List (Option Rat))
    (hdom : match spec with
      | .none => True
      | .shift _ k => k ≠ 0
      | .minmax mr => 0 ≤ mr ∧ 0 < max (nanmax vals - nanmin vals) mr
      | .minmaxFixed lo hi => lo ≠ hi
      | .step st sc => st.length + 1 = sc.length ∧ sortedRat st = true ∧ PosScales sc)
    (h : applyScaling vals spec = .ok out) :
    undoScaling out (convertSpec vals spec) = .ok vals := by
  have hdom : InverseDomain vals spec := hdom
  obtain ⟨-, rfl⟩ := (applyScaling_eq_ok_iff vals spec out).mp h
  rw [undoScaling_convertSpec vals _ spec hdom.specOK,
    map_optmap_optmap fun a _ => unscaleFn_scaleFn vals spec hdom a]

set_option linter.unusedVariables false in
/-- Min-max scaling with a minimum range maps the data into `[0, 1]`. -/
theorem C19_minmax_unit_interval (vals : List (Option Rat)) (minRange : Rat) (hr : 0 ≤ minRange)
    (hspan : 0 < max (nanmax vals - nanmin vals) minRange) (out : List (Option Rat))
    (h : applyScaling vals (.minmax minRange) = .ok out) :
    ∀ y ∈ valids out, 0 ≤ y ∧ y ≤ 1 := by
  obtain ⟨-, rfl⟩ := (applyScaling_eq_ok_iff vals _ _).mp h
  intro y hy
  rw [valids_map_optmap, List.mem_map] at hy
  obtain ⟨v, hv, rfl⟩ := hy
  obtain ⟨hb, _⟩ := minrange2minmax_spec vals minRange
  exact minmax1_range (hb v hv).1 (hb v hv).2

set_option linter.unusedVariables false in
/-- The interval that `minrange2minmax` has mapped onto `[0,1]` contains the data, has width `max(span, min_range)` and
is centred on the data. -/
theorem C19_min_range (vals : List (Option Rat)) (minRange : Rat) (hne : valids vals ≠ []) (hr : 0 ≤ minRange) :
    let lo := (minrange2minmax vals minRange).1
    let hi := (minrange2minmax vals minRange).2
    (∀ v ∈ valids vals, lo ≤ v ∧ v ≤ hi) ∧ hi - lo ≥ minRange ∧
    hi - lo = max (nanmax vals - nanmin vals) minRange ∧ hi + lo = nanmax vals + nanmin vals :=
  minrange2minmax_spec vals minRange

set_option linter.unusedVariables false in
/-- Step scaling is continuous: the formula of bin `k` at its upper end `steps[k]` (`below`) gives `stepEdgeOut (k+1)`,
which is what the formula of bin `k+1` gives there. -/
theorem C19_step_continuous (steps scales : List Rat) (hl : steps.length + 1 = scales.length)
    (hs : sortedRat steps = true) (k : Nat) (hk : k < steps.length) :
    let e := steps.getD k 0
    let below := (e - (if k = 0 then 0 else steps.getD (k - 1) 0)) / scales.getD k 1 + stepEdgeOut steps scales k
    stepEdgeOut steps scales (k + 1) = below :=
  stepEdgeOut_succ steps scales k

/-- With sorted steps and positive scales, step scaling is strictly increasing on all of ℚ and inverted by
`mode='undo'`. -/
theorem C19_step_monotone_invertible (steps scales : List Rat) (hl : steps.length + 1 = scales.length)
    (hs : sortedRat steps = true) (hp : PosScales scales) :
    (∀ a b, a < b → stepDo steps scales a < stepDo steps scales b) ∧
    (∀ a, stepUndo steps scales (stepDo steps scales a) = a) :=
  have h : StepOK steps scales := ⟨hl, hs, hp⟩
  ⟨fun _ _ hab => h.stepDo_strictMono hab, h.stepUndo_do⟩

/-- Ill-formed step lists are refused with an `AmpycloudError`. -/
theorem C19_step_refuses (vals : List (Option Rat)) (steps scales : List Rat) (m : ScaleMode)
    (h : steps.length + 1 ≠ scales.length ∨ sortedRat steps = false) :
    ∃ why, stepScale vals steps scales m = .error (.ampy why) := by
  unfold stepScale
  by_cases h1 : steps.length + 1 ≠ scales.length
  · exact ⟨_, if_pos h1⟩
  · rw [if_neg h1]
    exact ⟨_, if_pos (by simp [isSortedRat, h.resolve_left h1])⟩

/-- NaN entries stay NaN and do not affect the scaling of the other values. -/
theorem C19_nan_blind (vals : List (Option Rat)) (spec : ScaleSpec) (out : List (Option Rat))
    (h : applyScaling vals spec = .ok out) :
    out.length = vals.length ∧
    (∀ i : Nat, vals[i]? = some none → out[i]? = some none) ∧
    (∀ (i : Nat) (x : Rat), vals[i]? = some (some x) → ∃ y, out[i]? = some (some y)) ∧
    ∃ out', applyScaling ((valids vals).map some) spec = .ok out' ∧ valids out' = valids out := by
  have hv := applyScaling_valids vals spec out h
  obtain ⟨-, rfl⟩ := (applyScaling_eq_ok_iff vals spec out).mp h
  refine ⟨List.length_map _, fun i hi => ?_, fun i x hi => ⟨scaleFn vals spec x, ?_⟩, _, hv, valids_map_some _⟩
  · rw [List.getElem?_map, hi]; rfl
  · rw [List.getElem?_map, hi]; rfl

/-- Non-vacuity: the default slicing scaling on a concrete array. -/
example : applyScaling [some 1000, none, some 1500] (.minmax 1000) = .ok [some (1/4), none, some (3/4)] := by
  decide +kernel

end Ampy
