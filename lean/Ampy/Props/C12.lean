import Ampy.Lemmas.ParamsStep
/-!
# C12 — all documented ways of setting parameters are equivalent; reset restores all

`adjustTree` models `utils.adjust_nested_dict`, `Sys.step` the routes: per-call dictionary (`construct (some i)`),
global edits (`setGlobal`), YAML file (`setPrms`), and `reset_prms`.  Valid assignment (`PTree.valid`): a dict only
where the reference holds a dict, a non-dict only where it holds a non-dict; unknown keys anywhere.  `nodupKeys`:
pairwise distinct keys, as in every Python dict.
-/
namespace Ampy

/-- A valid assignment (`PTree.valid`) never crashes, keeps the key tree of the reference (unknown keys add no key)
and raises exactly one `AmpycloudWarning` per unknown key. -/
theorem C12_adjust_shape (ref new : PTree) (l : List String) (h : PTree.valid ref new = true) :
    (adjustTree ref new l).1.crashed = false ∧
    PTree.sameShape (adjustTree ref new l).1.tree ref = true ∧
    (adjustTree ref new l).1.warnings.length = PTree.unknown ref new :=
  adjust_of_valid.1 ref new l h

/-- A per-call run cannot see the global on the keys it overrides: two globals that agree off the named leaves give
equal effective parameters.  Of `g₂` only `agreeOff` is asked: it gives `g₂` the keys of `g₁` at every level. -/
theorem C12_override_blind (new g₁ g₂ : PTree) (l : List String) (hv : PTree.valid g₁ new = true)
    (hk : new.nodupKeys = true) (hg : g₁.nodupKeys = true) (ha : PTree.agreeOff new g₁ g₂ = true) :
    (adjustTree g₁ new l).1.tree.strip = (adjustTree g₂ new l).1.tree.strip :=
  (override_blind_tree new g₁ g₂ l l hv hk hg ha).1

/-- An entry the assignment does not name keeps its value (the very same object). -/
theorem C12_only_named (rid nid : Nat) (res nes : PEntries) (l : List String) (k : String)
    (hk : nes.lookup k = none) (hc : (adjustTree (.dict rid res) (.dict nid nes) l).1.crashed = false) :
    ∃ es, (adjustTree (.dict rid res) (.dict nid nes) l).1.tree = .dict rid es ∧ es.lookup k = res.lookup k := by
  have _ := hc
  rcases h : adjustEntries res nes l with ⟨es, w, cr, lv⟩
  rw [adjustTree_dict h]
  exact ⟨es, rfl, by simpa [h] using adjust_lookup_unnamed k res nes l hk⟩

/-- The update depends on contents only, not on identities: equal contents in, equal contents, warnings and
outcome out. -/
theorem C12_adjust_contents (r r' n n' : PTree) (l : List String) (hr : r.strip = r'.strip) (hn : n.strip = n'.strip) :
    (adjustTree r n l).1.tree.strip = (adjustTree r' n' l).1.tree.strip ∧
    (adjustTree r n l).1.warnings = (adjustTree r' n' l).1.warnings ∧
    (adjustTree r n l).1.crashed = (adjustTree r' n' l).1.crashed ∧
    (adjustTree r n l).2 = (adjustTree r' n' l).2 :=
  adjust_contents r r' n n' l hr hn

/-- A chunk built with the per-call dictionary `t` and one built with no dictionary after `set_prms` of the same
contents have equal effective parameters, and `set_prms` reports what the per-call construction reports, whatever
the global held before. -/
theorem C12_routes_equal (s : Sys) (t : PTree) :
    let a := (s.step (.newCaller t)).1.step (.construct (some s.callers.length))
    let b := (s.step (.setPrms t)).1.step (.construct none)
    (s.step (.setPrms t)).2 = a.2 ∧
    ((s.step (.setPrms t)).2 ≠ .crash "AttributeError" →
      (a.1.snaps.getLast?).map PTree.strip = (b.1.snaps.getLast?).map PTree.strip ∧ b.2 = .ok []) := by
  intro a b
  -- one route adjusts a copy of the global, the other the global itself: `adjust` sees contents only
  obtain ⟨kt, kw, kc, -⟩ := adjust_contents s.global (s.global.deepcopy (t.deepcopy s.next).2).1 (t.deepcopy s.next).1
    (t.deepcopy s.next).1 [] (PTree.deepcopy_strip _ _).symm rfl
  simp only [a, b, step_newCaller_eq, step_setPrms_eq, step_constructNone_eq, step_constructSome_eq,
    List.getElem?_concat_length, ← kc, ← kw]
  cases hcr : (adjustTree s.global (t.deepcopy s.next).1 []).1.crashed
  · -- the new snapshots: the adjusted copy, a copy of the adjusted global
    simp only [Bool.false_eq_true, if_false, List.getLast?_concat, Option.map_some, ← kt, PTree.deepcopy_strip,
      and_self, implies_true]
  · exact ⟨rfl, fun h => absurd rfl h⟩

/-- Writing a non-dict `v` at an existing path of the global is adjusting by the one-leaf dictionary `nest p v`: the
global-edit route is the per-call / YAML route, leaf by leaf.  A dict `v` would be descended into by `adjust`; under a
missing key `adjust` warns where the direct edit adds the key. -/
theorem C12_edit_is_adjust (g v : PTree) (p : List String) (g' : PTree) (cur : PTree)
    (hcur : g.getPath p = some cur) (hnd : ∀ i es, cur ≠ .dict i es) (hv : ∀ i es, v ≠ .dict i es)
    (hp : p ≠ []) (h : g.setPath p v = some g') :
    (adjustTree g (nest p v) []).1.tree = g' ∧ (adjustTree g (nest p v) []).1.crashed = false ∧
    (adjustTree g (nest p v) []).1.warnings = [] := by
  have _ := hnd
  have _ := hp
  obtain ⟨lv, e⟩ := setPath_eq_adjust v ((PTree.isDict_false_iff v).2 hv) p g g' cur [] hcur h
  rw [e]; exact ⟨rfl, rfl, rfl⟩

/-- `reset_prms()` restores the packaged defaults, whatever happened before (they are re-read at every call). -/
theorem C12_reset_all (s : Sys) :
    (s.step (.reset none)).1.global.strip = s.defaults.strip ∧ (s.step (.reset none)).2 = .ok [] :=
  ⟨PTree.deepcopy_strip _ _, rfl⟩

/-- `reset_prms(names)` restores exactly the named entries and leaves the others as they are. -/
theorem C12_reset_some (s : Sys) (gid did : Nat) (ges des : PEntries) (names : List String)
    (hg : s.global = .dict gid ges) (hd : s.defaults = .dict did des)
    (hn : ∀ n ∈ names, (des.lookup n).isSome = true) :
    ∃ es, (s.step (.reset (some names))).1.global = .dict gid es ∧ (s.step (.reset (some names))).2 = .ok [] ∧
      (∀ n ∈ names, ((es.lookup n).map PTree.strip) = ((des.lookup n).map PTree.strip)) ∧
      (∀ k, k ∉ names → es.lookup k = ges.lookup k) := by
  obtain ⟨j, des', es, h⟩ := reset_prefix s gid did ges des names [] hg hd hn
  have hglobal := h.global
  have hout := h.out
  rw [List.append_nil] at hglobal hout
  exact ⟨es, hglobal, hout, h.reset, h.kept⟩

/-- An unknown name raises `AmpycloudError`; the names before it have been reset already (the code resets one by
one). -/
theorem C12_reset_unknown (s : Sys) (gid did : Nat) (ges des : PEntries) (pre post : List String) (bad : String)
    (hg : s.global = .dict gid ges) (hd : s.defaults = .dict did des)
    (hn : ∀ n ∈ pre, (des.lookup n).isSome = true) (hb : des.lookup bad = none) :
    ∃ es, (s.step (.reset (some (pre ++ bad :: post)))).1.global = .dict gid es ∧
      (s.step (.reset (some (pre ++ bad :: post)))).2 = .ampyError ∧
      (∀ n ∈ pre, ((es.lookup n).map PTree.strip) = ((des.lookup n).map PTree.strip)) ∧
      (∀ k, k ∉ pre → es.lookup k = ges.lookup k) := by
  obtain ⟨j, des', es, h⟩ := reset_prefix s gid did ges des pre (bad :: post) hg hd hn
  have hb' : des'.lookup bad = none := by
    have := h.copy bad
    cases h' : des'.lookup bad <;> simp [h', hb] at this ⊢
  have hglobal := h.global
  have hout := h.out
  rw [resetFold_cons, resetFold_one, hb', resetFold_stopped] at hglobal hout
  exact ⟨es, hglobal, hout, h.reset, h.kept⟩

end Ampy
