import Ampy.Lemmas.BaseHeight
import Ampy.Lemmas.CloudAmount
import Ampy.Lemmas.Metarize
import Ampy.Lemmas.Msg
import Ampy.Lemmas.EndToEnd
/-!
# C04 — base height = configured percentile, inside the layer, never coded upward

`calcBase`/`percentile`/`latest`/`selectSorted`/`mkRow` model `utils.calc_base_height`,
`numpy.percentile`, the look-back slice, `_calculate_base_height_for_selection`, `metarize`.
"Fluffiness is finite" is a property of the LOWESS kernel and is only monitored by the harness.
-/
namespace Ampy

/-- The exact percentile lies between the lowest and highest selected value, for every
`BASE_LVL_HEIGHT_PERC` in `[0, 100]`. -/
theorem C04_percentile_between (vals : List Rat) (hne : vals ≠ []) (q : Rat) (h0 : 0 ≤ q) (h1 : q ≤ 100) :
    minRat vals ≤ percentile vals q ∧ percentile vals q ≤ maxRat vals := by
  have hperm := List.mergeSort_perm vals leRat
  have hne' : vals.mergeSort leRat ≠ [] := by
    intro h
    rw [h] at hperm
    exact hne hperm.symm.eq_nil
  obtain ⟨i, hi, j, hj, -, hab1, hab2⟩ :=
    pctlSorted_between (vals.mergeSort leRat) (sort_pairwise vals) hne' q h0 h1
  rw [percentile_eq]
  exact ⟨Rat.le_trans (minRat_le (hperm.subset (List.getElem_mem hi))) hab1,
    Rat.le_trans hab2 (le_maxRat (hperm.subset (List.getElem_mem hj)))⟩

/-- Row order does not matter to the percentile. -/
theorem C04_percentile_perm {l₁ l₂ : List Rat} (h : l₁.Perm l₂) (q : Rat) :
    percentile l₁ q = percentile l₂ q := by
  rw [percentile_eq, percentile_eq, mergeSort_perm_eq h]

/-- The base height exists (no error) and lies between the lowest and the highest selected value, for any look-back
and any percentile routine with the between-property (the harness checks it on the float `np.percentile`). -/
theorem C04_base_between (pctl : List Rat → Rat → Rat) (vals : List Rat) (lb q : Rat) (hne : vals ≠ [])
    (hp : ∀ l, l ≠ [] → minRat l ≤ pctl l q ∧ pctl l q ≤ maxRat l) :
    ∃ b, calcBase pctl vals lb q = .ok b ∧ minRat vals ≤ b ∧ b ≤ maxRat vals :=
  calcBase_between pctl vals lb q hne hp

theorem C04_base_between_exact (vals : List Rat) (lb q : Rat) (hne : vals ≠ []) (h0 : 0 ≤ q) (h1 : q ≤ 100) :
    ∃ b, calcBase percentile vals lb q = .ok b ∧ minRat vals ≤ b ∧ b ≤ maxRat vals :=
  calcBase_between percentile vals lb q hne (fun l hl => C04_percentile_between l hl q h0 h1)

/-- The percentile is taken over a suffix (the most recent values) of the time-ordered selection, non-empty if that
is; with a look-back of 100 over all of it. -/
theorem C04_lookback (vals : List Rat) (lb : Rat) :
    (latest vals lb) <:+ vals ∧ (vals ≠ [] → latest vals lb ≠ []) ∧ latest vals 100 = vals :=
  ⟨latest_suffix vals lb, mt (latest_eq_nil vals lb).mp, latest_full vals⟩

/-- min, max, mean, variance and thickness of a row are the statistics of its member hits. -/
theorem C04_stats {α} [DecidableEq α] (K : MetK) (P : Prms α) (w : Which) (data : List (Hit α))
    (ids : List Int) (cid : Int) (r : Row) (h : mkRow K P w data ids cid = .ok r) :
    let hs := (members data ids cid).filterMap (·.height)
    r.hmin = minRat hs ∧ r.hmax = maxRat hs ∧ r.mean = meanRat hs ∧ r.var = varRat hs ∧
    r.thick = r.hmax - r.hmin ∧ 0 ≤ r.thick ∧ 0 ≤ r.fluff := by
  obtain ⟨rfl, f⟩ := mkRow_rowOf h
  exact ⟨f.hmin, f.hmax, f.mean, f.var, f.thick, f.thick_nonneg, f.fluff_nonneg⟩

/-- The base height written in the row is `calc_base_height` of the selected member heights in the time order
returned by the sort, and the code is `mkCode` of okta and base. -/
theorem C04_row_base {α} [DecidableEq α] (K : MetK) (P : Prms α) (w : Which) (data : List (Hit α))
    (ids : List Int) (cid : Int) (r : Row) (h : mkRow K P w data ids cid = .ok r) :
    calcBase K.pctl (selectSorted K data (baseMask P data ids cid)) P.lookback P.basePerc = .ok r.base ∧
    mkCode r.okta r.base = .ok r.code := by
  obtain ⟨rfl, f⟩ := mkRow_rowOf h
  exact ⟨f.base, f.code⟩

/-- The three digits are the base floored to 100 ft (1000 ft above 10000 ft), never rounded up. -/
theorem C04_code_floor (okta : Int) (base : Rat) (code : String) (h : mkCode okta base = .ok code) :
    (∃ p, okta2code (.int okta) = .ok (some p) ∧ code = p ++ fmt03 (heightHundreds base)) ∧
    ((heightHundreds base : Int) : Rat) * 100 ≤ base := by
  obtain ⟨p, hp, hc⟩ := mkCode_post okta base code h
  exact ⟨⟨p, hp, hc⟩, hh_le base⟩

/-- Fluffiness is non-negative whatever the LOWESS returns, and zero for a single point. -/
theorem C04_fluff_nonneg (K : MetK) (pts : List (Rat × Rat)) :
    0 ≤ fluffiness K pts ∧ (pts.length = 1 → fluffiness K pts = 0) :=
  ⟨fluffiness_nonneg K pts, fun h => by unfold fluffiness; rw [if_pos h]⟩

/-- Each table is sorted by ascending base, whatever order `sort_values` picks among equal bases. -/
theorem C04_sorted {α} [DecidableEq α] (K : MetK) (P : Prms α) (w : Which) (layersDone : Bool)
    (data : List (Hit α)) (ids : List Int) (hK : MetKOK K P.basePerc) (h : IdsOK data ids)
    (hr : HeightsInRange data) (ht0 : 0 ≤ P.t0) (t : Table)
    (ht : metarize K P w layersDone data ids = .ok t) :
    t.Pairwise (fun a b => a.base ≤ b.base) :=
  (metarize_tableOK K P w layersDone data ids hK h hr ht0 t ht).sorted

/-- Each base height of a table `metarize` builds lies between the lowest and the highest member hit of its set,
whatever the look-back and the exclusion list. -/
theorem C04_base_inside {α} [DecidableEq α] (K : MetK) (P : Prms α) (w : Which) (layersDone : Bool)
    (data : List (Hit α)) (ids : List Int) (hK : MetKOK K P.basePerc) (h : IdsOK data ids) (ht0 : 0 ≤ P.t0)
    (t : Table) (ht : metarize K P w layersDone data ids = .ok t) :
    ∀ r ∈ t, minRat ((members data ids r.cid).filterMap (·.height)) ≤ r.base ∧
             r.base ≤ maxRat ((members data ids r.cid).filterMap (·.height)) := by
  intro r hr
  obtain ⟨hc, f⟩ := metarize_row K P w layersDone data ids hK t ht hr
  exact f.base_inside hK h hc ht0

/-- In every table of every chunk `run` returns, rows ascend in base, and each row's base is `calc_base_height` of its
selected member heights, lies between the lowest and the highest member hit and is coded by flooring; min / max /
mean / variance / thickness are the statistics of the member hits; fluffiness is non-negative. -/
theorem C04_run_rows {α} [DecidableEq α] (K : Kern) (P : PPrms α) (checked : List (Hit α))
    (hA : Accepted K P checked) (c : Chunk α) (h : run K P checked = .ok c) (w : Which) :
    ∃ t ids, tableOf c w = some t ∧ idsOf c w = some ids ∧
      t.Pairwise (fun a b => a.base ≤ b.base) ∧
      ∀ r ∈ t,
        calcBase K.pctl (selectSorted K.toMetK c.data (baseMask P.toPrms c.data ids r.cid)) P.lookback P.basePerc
          = .ok r.base ∧
        (let hs := (members c.data ids r.cid).filterMap (·.height)
         minRat hs ≤ r.base ∧ r.base ≤ maxRat hs ∧
         r.hmin = minRat hs ∧ r.hmax = maxRat hs ∧ r.mean = meanRat hs ∧ r.var = varRat hs ∧
         r.thick = r.hmax - r.hmin ∧ 0 ≤ r.thick ∧ 0 ≤ r.fluff) ∧
        ((heightHundreds r.base : Int) : Rat) * 100 ≤ r.base ∧
        ∃ p, okta2code (.int r.okta) = .ok (some p) ∧ r.code = p ++ fmt03 (heightHundreds r.base) := by
  obtain ⟨t, ids, L⟩ := run_level K P checked hA c h w
  refine ⟨t, ids, L.table, L.ids, L.tableOK.sorted, fun r hr => ?_⟩
  obtain ⟨hc, f⟩ := L.rows r hr
  obtain ⟨b1, b2⟩ := f.base_inside hA.kern.met L.exact.toOK hc hA.prms.t0
  obtain ⟨hcode, hfl⟩ := C04_code_floor r.okta r.base r.code f.code
  exact ⟨f.base, ⟨b1, b2, f.hmin, f.hmax, f.mean, f.var, f.thick, f.thick_nonneg, f.fluff_nonneg⟩, hfl, hcode⟩

end Ampy
