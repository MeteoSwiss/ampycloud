import Ampy.Lemmas.CloudAmount
import Ampy.Lemmas.Metarize
import Ampy.Lemmas.Msg
import Ampy.Lemmas.EndToEnd
/-!
# C03 — sky coverage: hit counts, percentages and oktas are exactly what the hits imply

`mkRow` models one pass of `_calculate_cloud_amount` and the rest of `metarize` for one slice/group/layer.
-/
namespace Ampy

/-- The reported hit count is the number of distinct (ceilometer, time) measurements of the members. -/
theorem C03_nhits_distinct {α} [DecidableEq α] (data : List (Hit α)) (ids : List Int) (cid : Int) :
    hitCount (ceilos data) (members data ids cid) =
      (((members data ids cid).map fun h => (h.ceilo, h.dt)).eraseDups).length :=
  hitCount_eq_distinct_pairs _ _ (ceilos_nodup data)
    (fun h hm => mem_ceilos data h ((members_sublist data ids cid).subset hm))

/-- The denominator is the number of distinct (ceilometer, time) measurements in the chunk. -/
theorem C03_M_distinct {α} [DecidableEq α] (data : List (Hit α)) :
    maxHits data = ((data.map fun h => (h.ceilo, h.dt)).eraseDups).length :=
  hitCount_eq_distinct_pairs _ _ (ceilos_nodup data) (fun h hm => mem_ceilos data h hm)

/-- A set never counts more measurements than the chunk holds (so `perc2okta`'s range check is
unreachable from `metarize`). -/
theorem C03_nhits_le_M {α} [DecidableEq α] (data : List (Hit α)) (ids : List Int) (cid : Int) :
    hitCount (ceilos data) (members data ids cid) ≤ maxHits data :=
  hitCount_le_of_sublist _ _ _ (members_sublist data ids cid)

/-- What `mkRow` writes in `n_hits`, `perc`, `okta`: the count, `100·count/M`, and `oktaOf` of the two. -/
theorem C03_row_counts {α} [DecidableEq α] (K : MetK) (P : Prms α) (w : Which) (data : List (Hit α))
    (ids : List Int) (cid : Int) (r : Row) (h : mkRow K P w data ids cid = .ok r) :
    r.nHits = hitCount (ceilos data) (members data ids cid) ∧
    r.perc = (r.nHits : Rat) / (maxHits data : Rat) * 100 ∧
    oktaOf r.nHits (maxHits data) P.t0 P.t8 = .ok r.okta := by
  obtain ⟨rfl, f⟩ := mkRow_rowOf h
  exact ⟨f.nHits, f.perc, f.okta⟩

/-- Okta: 0 up to MAX_HITS_OKTA0 hits, else 8 when at most MAX_HOLES_OKTA8 measurements are missing,
else the WMO binning of the percentage. -/
theorem C03_okta_def (n M : Nat) (t0 t8 : Rat) (hM : 0 < M) (h : n ≤ M) :
    oktaOf n M t0 t8 = .ok (if (n : Rat) ≤ t0 then 0
      else if (((M : Int) - (n : Int) : Int) : Rat) ≤ t8 then 8
      else oktaOfPerc ((n : Rat) / (M : Rat) * 100)) :=
  oktaOf_eq n M t0 t8 hM h

/-- The okta never decreases with the count. -/
theorem C03_okta_mono (n n' M : Nat) (t0 t8 : Rat) (hM : 0 < M) (hn : n ≤ n') (h : n' ≤ M)
    (a b : Int) (ha : oktaOf n M t0 t8 = .ok a) (hb : oktaOf n' M t0 t8 = .ok b) : a ≤ b := by
  have hnM : n ≤ M := Nat.le_trans hn h
  cases (oktaOf_eq n M t0 t8 hM hnM).symm.trans ha
  cases (oktaOf_eq n' M t0 t8 hM h).symm.trans hb
  have hr := percNM_range hM hnM
  have hr' := percNM_range hM h
  have hnn : (n : Rat) ≤ (n' : Rat) := by exact_mod_cast hn
  have hholes : (((M : Int) - (n' : Int) : Int) : Rat) ≤ (((M : Int) - (n : Int) : Int) : Rat) := by
    exact_mod_cast (show (M : Int) - (n' : Int) ≤ (M : Int) - (n : Int) by omega)
  exact ite3_le (fun c => hnn.trans c) (fun d => hholes.trans d) (oktaOfPerc_range hr'.1 hr'.2).1
    (oktaOfPerc_range hr.1 hr.2).2 (oktaOfPerc_mono hr.1 ((percNM_le_iff hM).mpr hn) hr'.2)

theorem C03_okta_range (n M : Nat) (t0 t8 : Rat) (hM : 0 < M) (h : n ≤ M) (a : Int)
    (ha : oktaOf n M t0 t8 = .ok a) : 0 ≤ a ∧ a ≤ 8 :=
  oktaOf_range n M t0 t8 hM h a ha

/-- The code prefix is the WMO abbreviation of the okta. -/
theorem C03_code_prefix (okta : Int) (base : Rat) (code : String) (h : mkCode okta base = .ok code) :
    ∃ p, okta2code (.int okta) = .ok (some p) ∧ code = p ++ height2code (some base) :=
  mkCode_post okta base code h

/-- In every table of every chunk `run` returns, a row's hit count is the number of distinct (ceilometer, time)
measurements among the hits carrying its id, its percentage is `100·count/M` with `M` that number for the (cropped)
chunk, its okta is the buffer/binning rule on `(count, M)`, lies in `0..8`, and its code starts with that okta's WMO
abbreviation. -/
theorem C03_run_rows {α} [DecidableEq α] (K : Kern) (P : PPrms α) (checked : List (Hit α))
    (hA : Accepted K P checked) (c : Chunk α) (h : run K P checked = .ok c) (w : Which) :
    ∃ t ids, tableOf c w = some t ∧ idsOf c w = some ids ∧ ∀ r ∈ t,
      r.nHits = (((members c.data ids r.cid).map fun h => (h.ceilo, h.dt)).eraseDups).length ∧
      maxHits c.data = ((c.data.map fun h => (h.ceilo, h.dt)).eraseDups).length ∧
      r.nHits ≤ maxHits c.data ∧
      r.perc = (r.nHits : Rat) / (maxHits c.data : Rat) * 100 ∧
      oktaOf r.nHits (maxHits c.data) P.t0 P.t8 = .ok r.okta ∧ 0 ≤ r.okta ∧ r.okta ≤ 8 ∧
      ∃ p, okta2code (.int r.okta) = .ok (some p) ∧ r.code = p ++ height2code (some r.base) := by
  obtain ⟨t, ids, L⟩ := run_level K P checked hA c h w
  refine ⟨t, ids, L.table, L.ids, fun r hr => ?_⟩
  obtain ⟨_, f⟩ := L.rows r hr
  exact ⟨f.nHits.trans (C03_nhits_distinct c.data ids r.cid), C03_M_distinct c.data,
    f.nHits ▸ C03_nhits_le_M c.data ids r.cid, f.perc, f.okta, (L.tableOK.oktas r hr).1, (L.tableOK.oktas r hr).2,
    C03_code_prefix r.okta r.base r.code f.code⟩

end Ampy
