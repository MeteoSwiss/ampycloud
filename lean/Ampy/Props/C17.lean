import Ampy.Lemmas.Icao
/-!
# C17 — significance flags implement the ICAO 1-3-5 rule for every okta sequence

Theorems about `Ampy.significantCloud` (model of `icao.significant_cloud`), for every
`List Int` of any length.
-/
namespace Ampy

/-- One flag per layer. -/
theorem C17_length (os : List Int) : (significantCloud os).length = os.length :=
  significantCloud_length os

/-- A layer is flagged iff fewer than three layers below it were flagged and its okta is at
least 1, 3, 5 for the first, second, third flag (`2·cnt+1` with `cnt` the flags below). -/
theorem C17_char (os : List Int) (i : Nat) (h : i < os.length) :
    ((significantCloud os)[i]'(by rw [C17_length]; exact h) = true ↔
      ((significantCloud os).take i).count true < 3 ∧
      os[i] ≥ 2 * ((((significantCloud os).take i).count true : Nat) : Int) + 1) := by
  obtain ⟨xs, o, ys, rfl, rfl⟩ : ∃ xs o ys, os = xs ++ o :: ys ∧ xs.length = i :=
    ⟨os.take i, os[i], os.drop (i + 1), by simp, by simp; omega⟩
  obtain ⟨fs, e⟩ := significantCloud_split xs o ys
  have hl := significantCloud_length xs
  rw [List.getElem_of_append e hl, List.getElem_of_append rfl rfl, e, List.take_left' hl, decide_eq_true_iff]

/-- The flags of a prefix never depend on the layers above it. -/
theorem C17_prefix (xs ys : List Int) :
    (significantCloud (xs ++ ys)).take xs.length = significantCloud xs := by
  simp only [significantCloud_eq_spec, specFrom_append]
  rw [List.take_left' (specFrom_length xs 0)]

/-- Never more than three flags. -/
theorem C17_at_most_three (os : List Int) : (significantCloud os).count true ≤ 3 := by
  rw [significantCloud_eq_spec]
  have := specFrom_count_le os 0 (by omega)
  omega

/-- Zero-okta (or negative) layers are never flagged. -/
theorem C17_zero_never (os : List Int) (i : Nat) (h : i < os.length) (h0 : os[i] ≤ 0) :
    (significantCloud os)[i]'(by rw [C17_length]; exact h) = false := by
  have := C17_char os i h
  cases hb : (significantCloud os)[i]'(by rw [C17_length]; exact h) with
  | false => rfl
  | true => rw [hb] at this; have := this.mp rfl; omega

/-- Non-vacuity: a concrete sequence exercising all three thresholds and the cap. -/
example : significantCloud [0, 1, 2, 3, 4, 5, 8, 8] =
    [false, true, false, true, false, true, false, false] := by decide

end Ampy
