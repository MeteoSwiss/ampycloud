import Ampy.Model.Basic
import Ampy.Model.Icao
import Ampy.Model.Metar
import Ampy.Model.Multi
import Ampy.Model.Params
import Ampy.Model.Pipeline
import Ampy.Model.Scaler
import Ampy.Model.Screen
import Ampy.Model.Stage
import Ampy.Model.Wmo
import Ampy.Spec.C17
import Ampy.Spec.C18
import Ampy.Spec.Checks
import Ampy.Spec.Pipeline
import Ampy.Spec.Table
import Ampy.Driver.Hist
import Ampy.Driver.Parse
import Ampy.Driver.Run
import Ampy.Driver.Scale
import Ampy.Driver.Scene
import Ampy.Driver.Screen
import Ampy.Driver.Sys
import Ampy.Lemmas.BaseHeight
import Ampy.Lemmas.Cascade
import Ampy.Lemmas.CascadeHyps
import Ampy.Lemmas.CloudAmount
import Ampy.Lemmas.Crop
import Ampy.Lemmas.Domain
import Ampy.Lemmas.EndToEnd
import Ampy.Lemmas.Gmm
import Ampy.Lemmas.Icao
import Ampy.Lemmas.Ids
import Ampy.Lemmas.LayerOutcome
import Ampy.Lemmas.LayerSep
import Ampy.Lemmas.Layers
import Ampy.Lemmas.ListFacts
import Ampy.Lemmas.Merge
import Ampy.Lemmas.Metarize
import Ampy.Lemmas.MonitorMsg
import Ampy.Lemmas.MonitorRows
import Ampy.Lemmas.MonitorRun
import Ampy.Lemmas.Msg
import Ampy.Lemmas.NonVacuous
import Ampy.Lemmas.ParamsAdjust
import Ampy.Lemmas.ParamsSep
import Ampy.Lemmas.ParamsStep
import Ampy.Lemmas.ParamsTree
import Ampy.Lemmas.Rename
import Ampy.Lemmas.Run
import Ampy.Lemmas.Sat
import Ampy.Lemmas.Scaler
import Ampy.Lemmas.Screen
import Ampy.Lemmas.Selection
import Ampy.Lemmas.StageCanon
import Ampy.Lemmas.StageStep
import Ampy.Lemmas.TableColumns
import Ampy.Lemmas.Wmo
import Ampy.Props.C01
import Ampy.Props.C02
import Ampy.Props.C02Src
import Ampy.Props.C03
import Ampy.Props.C04
import Ampy.Props.C04Src
import Ampy.Props.C05
import Ampy.Props.C06
import Ampy.Props.C06Src
import Ampy.Props.C07
import Ampy.Props.C08
import Ampy.Props.C08Src
import Ampy.Props.C09
import Ampy.Props.C10
import Ampy.Props.C11
import Ampy.Props.C12
import Ampy.Props.C13
import Ampy.Props.C14
import Ampy.Props.C15
import Ampy.Props.C16
import Ampy.Props.C17
import Ampy.Props.C17Src
import Ampy.Props.C18
import Ampy.Props.C18Src
import Ampy.Props.C19
import Ampy.Props.C19Src
import Ampy.Props.C20
import Ampy.Props.C20Src
import Ampy.Props.Monitor
import Ampy.Gen.Prelude
import Ampy.Gen.SrcBestGmm
import Ampy.Gen.SrcCalcBaseHeight
import Ampy.Gen.SrcGetMinSepForHeight
import Ampy.Gen.SrcHeight2code
import Ampy.Gen.SrcMinmaxScale
import Ampy.Gen.SrcMinrange2minmax
import Ampy.Gen.SrcNcdOrNsc
import Ampy.Gen.SrcOkta2code
import Ampy.Gen.SrcOkta2symb
import Ampy.Gen.SrcPerc2okta
import Ampy.Gen.SrcShiftAndScale
import Ampy.Gen.SrcSignificantCloud
import Ampy.GenEq.Basic
import Ampy.GenEq.BestGmm
import Ampy.GenEq.CalcBaseHeight
import Ampy.GenEq.Height2code
import Ampy.GenEq.MinSep
import Ampy.GenEq.Okta2code
import Ampy.GenEq.Perc2okta
import Ampy.GenEq.Scalers
import Ampy.GenEq.SignificantCloud
import Ampy.GenEq.Small
